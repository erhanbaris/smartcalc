/-
  SC.Post — model of the post-processing in src/tokinizer/mod.rs:240-317:
  token_generator, token_cleaner, missing_token_adder.
-/
import SC.Types
namespace SC
variable {F : Type}

def Tok.isOp : Tok F → Bool
  | .op _ => true
  | _ => false

def Tok.isOpOf (o : Op) : Tok F → Bool
  | .op o' => o' = o
  | _ => false

def Tok.isText : Tok F → Bool
  | .text _ => true
  | _ => false

/-- `token_generator`: the types of the Active, typed token infos, in order. -/
def tokenGenerator (infos : List (TokInfo F)) : List (Tok F) :=
  infos.filterMap fun ti => if ti.active then ti.tok else none

def TokInfo.isAssign (ti : TokInfo F) : Bool :=
  match ti.tok with
  | some (.op .assign) => true
  | _ => false

/-- index after the first `=` among the token *infos* (Removed ones included), else 0 -/
def cleanerIndex (infos : List (TokInfo F)) : Nat :=
  match infos.findIdx? TokInfo.isAssign with
  | some i => i + 1
  | none => 0

/-- `token_cleaner`: drop every `Text` token at position ≥ `cleanerIndex infos` of `toks`. -/
def tokenCleaner (infos : List (TokInfo F)) (toks : List (Tok F)) : List (Tok F) :=
  let i := cleanerIndex infos
  toks.take i ++ (toks.drop i).filter (fun t => !t.isText)

/-- the `while` loop of `missing_token_adder`: insert `+` between two adjacent operands; a
    closing parenthesis ends an operand (fix 'literal behind a parenthesis' in /repo) -/
def insertPlus : Bool → List (Tok F) → List (Tok F)
  | _, [] => []
  | req, t :: ts =>
    if t.isOpOf .rparen then t :: insertPlus true ts
    else if t.isOp then t :: insertPlus false ts
    else if req then .op .plus :: t :: insertPlus true ts
    else t :: insertPlus true ts

/-- The index at which `missing_token_adder` starts working: behind the first `=`, else 0
    (a parenthesis does not move the start — fix 'operands in front of the first parenthesis'
    in /repo); `none` when it returns early. -/
def adderStart (toks : List (Tok F)) : Option Nat :=
  if toks.isEmpty then none else
  let i := match toks.findIdx? (fun t => t.isOpOf .assign) with
    | some i => i + 1
    | none => 0
  if i + 1 ≥ toks.length then none else some i

/-- `missing_token_adder` (the implicit 0 only in front of a sign at the start position) -/
def missingTokenAdder [Num F] (toks : List (Tok F)) : List (Tok F) :=
  match adderStart toks with
  | none => toks
  | some i =>
    let pre := toks.take i
    let rest := toks.drop i
    let rest := match rest with
      | t :: _ => if t.isOpOf .plus || t.isOpOf .minus then .item (.number (Num.ofInt 0) .decimal) :: rest else rest
      | [] => rest
    pre ++ insertPlus false rest

/-- the three post-processing steps of `Tokinizer::tokinize` -/
def postProcess [Num F] (infos : List (TokInfo F)) : List (Tok F) :=
  missingTokenAdder (tokenCleaner infos (tokenGenerator infos))

end SC
