/-
  SC.Parser — model of src/syntax/*.rs.

  The Rust parser keeps an index into the token vector and saves / restores it; here the
  state is the remaining suffix of the token list ("not consuming" = returning the list
  unchanged).  All loops take one fuel argument (sufficiency: SCP.ParserTotal, SCP.Lemmas.C02).
-/
import SC.Types
import SC.Post
namespace SC
variable {F : Type} [Num F]

abbrev PRes (F : Type) := Except Err (Ast F × List (Tok F))

/-- operators of the precedence levels: 0 AddSubtract, 1 Modulo, 2 MultiplyDivide -/
def levelOps : Nat → List Op
  | 0 => [.plus, .minus]
  | 1 => [.pct]
  | _ => [.mul, .div]

/-- `match_operator` -/
def matchOp (ops : List Op) : List (Tok F) → Option (Op × List (Tok F))
  | .op o :: rest => if ops.contains o then some (o, rest) else none
  | _ => none

def signOf (o : Op) : Int := if o = .minus then -1 else 1

/-- `PrimativeParser::parse_basic_primatives` -/
def parseBasic : List (Tok F) → PRes F
  | [] => .error .noMoreToken
  | t :: rest =>
    match t with
    | .tz _ _ | .text _ => .ok (.none, rest)
    | .item i => .ok (.item i, rest)
    | .field f => .ok (.field f, rest)
    | .var n => .ok (.var n, rest)
    | .op _ | .month _ => .error .noMoreToken

/-- the operand part of `UnaryParser::parse_prefix_unary` for operand tokens that are not `(`
    (the operand token is consumed — fix 4ea052a in /repo) -/
def prefixOperand (o : Op) (t : Tok F) : Option (Ast F) :=
  match t with
  | .item (.number v nt) => some (.item (.number (Num.mul v (Num.ofInt (signOf o))) nt))
  | .var n => some (.prefixUnary o (.var n))
  | .item (.percent p) => some (.prefixUnary o (.item (.percent p)))
  | .item (.money v c) => some (.prefixUnary o (.item (.money v c)))
  | _ => none

def Op.isSign (o : Op) : Bool := o = .minus || o = .plus

mutual
/-- `parse_binary::<T>` for level `lvl` (0,1,2), `UnaryParser::parse` for level 3 -/
def parseLevel : Nat → Nat → List (Tok F) → PRes F
  | 0, _, _ => .error .other
  | fuel + 1, lvl, ts =>
    if lvl ≥ 3 then parseUnary fuel ts
    else
      match parseLevel fuel (lvl + 1) ts with
      | .error e => .error e
      | .ok (.none, ts') => .ok (.none, ts')
      | .ok (left, ts') => binLoop fuel lvl left ts'

/-- the outer `loop` of `parse_binary` -/
def binLoop : Nat → Nat → Ast F → List (Tok F) → PRes F
  | 0, _, _, _ => .error .other
  | fuel + 1, lvl, left, ts =>
    match matchOp (levelOps lvl) ts with
    | none => .ok (left, ts)
    | some (o, ts1) =>
      match rightLoop fuel lvl ts1 with
      | .error e => .error e
      | .ok (right, ts2) => binLoop fuel lvl (.binary left o right) ts2

/-- the inner `loop` of `parse_binary`: parse operands until one is not `None` -/
def rightLoop : Nat → Nat → List (Tok F) → PRes F
  | 0, _, _ => .error .other
  | fuel + 1, lvl, ts =>
    match parseLevel fuel (lvl + 1) ts with
    | .error e => .error e
    | .ok (.none, ts') => rightLoop fuel lvl ts'
    | .ok (ast, ts') => .ok (ast, ts')

/-- `PrimativeParser::parse_parenthesis` after the `(` has been consumed -/
def parseParenBody : Nat → List (Tok F) → PRes F
  | 0, _ => .error .other
  | fuel + 1, ts =>
    match parseLevel fuel 0 ts with
    | .error e => .error e
    | .ok (.none, _) => .error .invalidExpr
    | .ok (ast, ts3) =>
      match matchOp [.rparen] ts3 with
      | none => .error .parenNotClosed
      | some (_, ts4) => .ok (ast, ts4)

/-- `UnaryParser::parse` = prefix unary, else `PrimativeParser::parse` = parenthesis, else basic -/
def parseUnary : Nat → List (Tok F) → PRes F
  | 0, _ => .error .other
  | fuel + 1, ts =>
    match ts with
    | .op o :: rest =>
      if o.isSign then
        -- parse_prefix_unary matched a sign
        match rest with
        | [] => parseBasic rest      -- Ok(None) with the sign consumed, then Primative on nothing
        | t :: rest' =>
          if t.isOpOf .lparen then
            -- sign in front of a parenthesis (fix 837003e in /repo)
            match parseParenBody fuel rest' with
            | .error e => .error e
            | .ok (ast, ts4) => .ok (.prefixUnary o ast, ts4)
          else
            match prefixOperand o t with
            | some ast => .ok (ast, rest')
            | none => .error .unaryNumber
      else if o = .lparen then parseParenBody fuel rest
      else parseBasic ts
    | _ => parseBasic ts
end

/-- enough fuel for every loop of the parser on `ts` (see SCP.ParserTotal.parseExpr_total) -/
def parseFuel (ts : List (Tok F)) : Nat := 8 * (ts.length + 2)

/-- `AddSubtractParser::parse` -/
def parseExpr (ts : List (Tok F)) : PRes F := parseLevel (parseFuel ts) 0 ts

end SC
