/-
  SC.Session — model of src/session.rs (set_text, has_value, next_line) and of the line loop of
  SmartCalc::execute_session / SmartCalc::execute (src/smartcalc.rs:329-335, 387-402).

  The line evaluator is a parameter `ev : V → List Char → V × R` (variables in, variables and
  slot out), so everything here holds for every evaluator — in particular for one whose lines
  fail.
-/
namespace SC

/-- `Regex::new(r"\r\n|\n").split(text)`: split at every LF, dropping one CR directly before it.
    `acc` holds the current piece reversed. -/
def splitLinesAux : List Char → List Char → List (List Char)
  | acc, [] => [acc.reverse]
  | acc, [c] => if c = '\n' then [acc.reverse, []] else [(c :: acc).reverse]
  | acc, c :: d :: rest =>
    if c = '\n' then acc.reverse :: splitLinesAux [] (d :: rest)
    else if c = '\r' ∧ d = '\n' then acc.reverse :: splitLinesAux [] rest
    else splitLinesAux (c :: acc) (d :: rest)

def splitLines (text : List Char) : List (List Char) := splitLinesAux [] text

/-- `Session` (text parts, cursor, variables). -/
structure Sess (V : Type) where
  parts : List (List Char) := []
  pos : Nat := 0
  vars : V

/-- `Session::set_text` (with the cursor reset of fix 6d1aef0). -/
def Sess.setText {V} (s : Sess V) (t : List Char) : Sess V :=
  { s with parts := splitLines t, pos := 0 }

/-- `Session::set_text` as it was before the fix: the cursor is kept. -/
def Sess.setTextOld {V} (s : Sess V) (t : List Char) : Sess V :=
  { s with parts := splitLines t }

/-- The body of the `loop` in `execute_session`, unrolled over the remaining lines. -/
def runLines {V R} (ev : V → List Char → V × R) : V → List (List Char) → V × List R
  | v, [] => (v, [])
  | v, l :: ls =>
    let (v', r) := ev v l
    let (v'', rs) := runLines ev v' ls
    (v'', r :: rs)

/-- `SmartCalc::execute_session`: status, slots, and the session afterwards (cursor on the last
    line, variables updated). -/
def execSession {V R} (ev : V → List Char → V × R) (s : Sess V) : Sess V × Bool × List R :=
  if s.pos < s.parts.length then
    let (v, rs) := runLines ev s.vars (s.parts.drop s.pos)
    ({ s with vars := v, pos := s.parts.length - 1 }, true, rs)
  else (s, false, [])

/-- `SmartCalc::execute`: fresh session, set text, run. -/
def execute {V R} (ev : V → List Char → V × R) (v0 : V) (text : List Char) : Bool × List R :=
  let s : Sess V := ({ vars := v0 } : Sess V).setText text
  let (_, st, rs) := execSession ev s
  (st, rs)

end SC
