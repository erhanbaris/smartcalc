/-
  SCP.C04 — Evaluation never changes the calculator; sessions isolate and persist correctly.

  What is a theorem here:
    * session cursor (clause "each time a new text is set on it every line of that text is
      evaluated exactly once, in order", and "a re-used session keeps its variables"):
      `setText_exec`, `history_refines` — for every evaluator, every session state and every
      sequence of texts.
    * purity of `execute` at the level of the model: `execute` is a function of (evaluator,
      initial variables, text) only — `execute_eq`, `sessions_isolated`.
    * the pre-fix behaviour violates the property: `old_cursor_violates` (kernel-checked).
  What is NOT a theorem (see DESIGN.md §7 C04): absence of writes through the shared
  `Rc<TokenInfo>` cells of the configuration — runtime aliasing the pure model cannot exhibit;
  covered by the history correspondence + fingerprint hook.
-/
import SC.Session
namespace SCP.C04
open SC

variable {V R : Type}

theorem runLines_length (ev : V → List Char → V × R) (v : V) (ls : List (List Char)) :
    (runLines ev v ls).2.length = ls.length := by
  induction ls generalizing v with
  | nil => simp [runLines]
  | cons l ls ih => simp [runLines, ih]

/-- in particular there is always a line for the cursor to stand on -/
theorem splitLinesAux_length (acc t : List Char) :
    (splitLinesAux acc t).length = t.count '\n' + 1 := by
  fun_induction splitLinesAux acc t with
  | case1 => rfl                                                          -- end of the text
  | case2 => rfl                                                          -- a last LF
  | case3 _ _ h => rw [List.count_cons_of_ne h]; rfl                      -- a last other character
  | case4 _ _ _ ih => rw [List.length_cons, ih, List.count_cons_self]     -- LF
  | case5 _ _ _ _ _ h ih =>                                               -- CRLF: the CR is not counted
    rw [List.length_cons, ih, h.1, h.2, List.count_cons_of_ne (by decide), List.count_cons_self]
  | case6 _ _ _ _ h _ ih => rw [ih, List.count_cons_of_ne h]              -- any other character

/-- After `set_text t`, `execute_session` returns status true and exactly the slots of all
    lines of `t`, evaluated in order starting from the session's current variables. -/
theorem setText_exec (ev : V → List Char → V × R) (s : Sess V) (t : List Char) :
    execSession ev (s.setText t) =
      ({ parts := splitLines t, pos := (splitLines t).length - 1,
         vars := (runLines ev s.vars (splitLines t)).1 },
       true, (runLines ev s.vars (splitLines t)).2) := by
  have hne : 0 < (splitLines t).length := splitLinesAux_length [] t ▸ Nat.succ_pos _
  simp [execSession, Sess.setText, hne]

/-- Abstract specification of a session history: each text is a straight-line run over all of
    its lines, the variables are threaded from text to text. -/
def specHistory (ev : V → List Char → V × R) : V → List (List Char) → List (Bool × List R)
  | _, [] => []
  | v, t :: ts =>
    let r := runLines ev v (splitLines t)
    (true, r.2) :: specHistory ev r.1 ts

/-- The concrete session driven by `set_text; execute_session` for each text in turn. -/
def sessHistory (ev : V → List Char → V × R) : Sess V → List (List Char) → List (Bool × List R)
  | _, [] => []
  | s, t :: ts =>
    let r := execSession ev (s.setText t)
    (r.2.1, r.2.2) :: sessHistory ev r.1 ts

/-- Refinement: for every history of texts the concrete session returns what the
    specification returns (one slot per line, in order, variables persisting). -/
theorem history_refines (ev : V → List Char → V × R) (s : Sess V) (ts : List (List Char)) :
    sessHistory ev s ts = specHistory ev s.vars ts := by
  induction ts generalizing s with
  | nil => simp [sessHistory, specHistory]
  | cons t ts ih =>
    simp only [sessHistory, specHistory, setText_exec]
    rw [ih]

theorem history_slot_counts (ev : V → List Char → V × R) (s : Sess V) (ts : List (List Char)) :
    (sessHistory ev s ts).map (fun r => (r.1, r.2.length)) =
      ts.map (fun t => (true, (splitLines t).length)) := by
  induction ts generalizing s with
  | nil => rfl
  | cons t ts ih => simp [sessHistory, setText_exec, runLines_length, ih]

/-- `execute` builds a fresh session per call: its result depends on the evaluator, the
    initial (empty) variables and the text only — whatever was evaluated before. -/
theorem execute_eq (ev : V → List Char → V × R) (v0 : V) (t : List Char) :
    execute ev v0 t = (true, (runLines ev v0 (splitLines t)).2) := by
  simp [execute, setText_exec]

/-- Two sessions never influence each other: running text `a` on `s₁` and text `b` on `s₂`
    gives the same two results in either order (the model has no shared state). -/
theorem sessions_isolated (ev : V → List Char → V × R) (s₁ s₂ : Sess V) (a b : List Char) :
    let r₁ := execSession ev (s₁.setText a)
    let r₂ := execSession ev (s₂.setText b)
    let r₂' := execSession ev (s₂.setText b)
    let r₁' := execSession ev (s₁.setText a)
    (r₁, r₂) = (r₁', r₂') := rfl

/-! ### The behaviour before fix 6d1aef0 violates the property (kernel-checked witness) -/

def echo : Unit → List Char → Unit × List Char := fun _ l => ((), l)

/-- With the old `set_text` (cursor kept), a 3-line text followed by a 1-line text yields
    status false and no slot at all. -/
theorem old_cursor_violates :
    let s0 : Sess Unit := { vars := () }
    let s1 := (execSession echo (s0.setTextOld ['1', '\n', '2', '\n', '3'])).1
    (execSession echo (s1.setTextOld ['4'])).2 = (false, []) := by decide

/-- non-vacuity: the fixed model on the same history returns one slot -/
example :
    let s0 : Sess Unit := { vars := () }
    let s1 := (execSession echo (s0.setText ['1', '\n', '2', '\n', '3'])).1
    (execSession echo (s1.setText ['4'])).2 = (true, [['4']]) := by decide

end SCP.C04
