/-
  SCP.C02 — Arithmetic obeys precedence, associativity and parentheses for every expression.

  Specification: SC.Spec.Arith (stratified trees, textbook `value`, token sequence `toks`).  The theorems hold for every
  number type `F`, i.e. also for IEEE doubles, and for every tree: no bound on size or nesting.

  NOT a theorem: a line with a sign where `missing_token_adder` starts working (the line start, when there is no `=`).
  There it puts a `0` in front, so the tokens are no longer those of the tree; `post_stable` and `line_eval_partial`
  (partial for this reason) assume no sign there, and such lines are decided by correspondence and oracle only.
-/
import SC.Spec.Arith
import SC.Parser
import SC.Eval
import SC.Engine
import SCP.Lemmas.C02
import SCP.Lemmas.C13
namespace SCP.C02
open SC SC.Spec

variable {F : Type} [Num F]

/-- Parsing the tokens of any tree consumes them all, and evaluating the result gives the
    textbook value, whatever the variables, rates and unit conversion are. -/
theorem parse_eval (s : Sum F) (rates : List (String × F))
    (conv : UnitRef → F → UnitRef → Option F) (vs : Vars F) :
    ∃ ast, parseExpr s.toks = .ok (ast, []) ∧
      execAst rates conv vs ast = .ok (.item (.number s.value .decimal), vs) :=
  ⟨s.ast, Sum.parseExpr_toks s, Sum.exec_ast rates conv vs s⟩

def isSignTok (t : Tok F) : Bool := t.isOpOf .plus || t.isOpOf .minus

/-- `missing_token_adder` does not change the tokens of a tree, provided no sign stands at the
    position where it starts working. -/
theorem post_stable (s : Sum F)
    (h : ∀ i t, adderStart s.toks = some i → s.toks[i]? = some t → isSignTok t = false) :
    missingTokenAdder s.toks = s.toks :=
  (missingTokenAdder_eq s.toks (s.toks_ind noAssign_closed) h).trans (Sum.insertPlus_toks s)

/-- the whole line (no assignment): post-processing, `SyntaxParser::parse`, interpreter -/
theorem line_eval_partial (s : Sum F) (c : Cfg F) (vs : Vars F)
    (h : ∀ i t, adderStart s.toks = some i → s.toks[i]? = some t → isSignTok t = false) :
    ∃ ast, parseLine vs (missingTokenAdder s.toks) = .ok (ast, vs) ∧
      exec c vs ast = .ok (.item (.number s.value .decimal), vs) := by
  refine ⟨s.ast, ?_, Sum.exec_ast c.rates (convForCalc c) vs s⟩
  rw [post_stable s h]
  unfold parseLine
  rw [s.toks_ind noAssign_closed]
  simp only [Sum.parseExpr_toks s]
  simp

/-- operands written side by side without an operator are added (left to right) -/
theorem adjacent_add (v : F) (rest : List F) (rates : List (String × F))
    (conv : UnitRef → F → UnitRef → Option F) (vs : Vars F) :
    ∃ ast, parseExpr (missingTokenAdder ((v :: rest).map litTok)) = .ok (ast, []) ∧
      execAst rates conv vs ast = .ok (.item (.number (rest.foldl Num.add v) .decimal), vs) := by
  let lit (w : F) : Prod F := .one (.prim (.lit w))
  have ht : (v :: rest).map litTok = (lit v :: rest.map lit).flatMap (·.toks) := by
    rw [← List.map_cons, List.flatMap_map]
    exact List.map_eq_flatMap
  have hlit : ∀ q ∈ lit v :: rest.map lit, ∃ w r, q.toks = litTok w :: r := by
    rw [← List.map_cons]
    intro q hq
    obtain ⟨w, _, rfl⟩ := List.mem_map.mp hq
    exact ⟨w, [], rfl⟩
  rw [ht, adjacent_operands _ _ hlit]
  obtain ⟨ast, h1, h2⟩ := parse_eval ((rest.map lit).foldl Sum.add (.one (lit v))) rates conv vs
  exact ⟨ast, h1, by rw [h2, addAll_value, List.foldl_map]; rfl⟩

theorem neg_value_rat (p : Prim Rat) : (Unary.neg p).value = - p.value := by
  cases p <;> simp [Unary.value, Prim.value, Num.mul, Num.ofInt] <;> grind

theorem pos_value_rat (p : Prim Rat) : (Unary.pos p).value = p.value := by
  cases p <;> simp [Unary.value, Prim.value, Num.mul, Num.ofInt]

theorem div_value_rat (p : Prod Rat) (u : Unary Rat) :
    (Prod.div p u).value = if u.value = 0 then 0 else p.value / u.value := by
  rw [Prod.value, SCP.Lemmas.C13.gdiv_rat]
  split
  next h => rw [h, Rat.div_def, Rat.inv_zero, Rat.mul_zero]
  · rfl

example : (Sum.sub (.one (.mul (.one (.prim (.lit (3 : Rat)))) (.neg (.lit 5)))) (.one (.neg (.paren (.add (.one (.one (.prim (.lit 2)))) (.one (.prim (.lit 3)))))))).value = -10 := by
  simp [Sum.value, Prod.value, Unary.value, Prim.value, Num.mul, Num.sub, Num.add, Num.ofInt]
  grind

end SCP.C02
