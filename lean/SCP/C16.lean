/-
  SCP.C16 — Blanks, comments and letter case of keywords never change a value (token level).

  Blanks and comments produce type-less tokens that the lexer drops; what reaches the rewrite
  layers differs between a line and its noisy variant only in the OFFSETS of the tokens and, after
  a change of letter case, in the letters of text tokens.  `Sim` relates two token infos that agree
  up to exactly that.  Every comparison of a line token against a pattern position — literal word, word group, typed
  field — is invariant under `Sim` (`tokFieldCompare_case`, `tokEq_case`, `infoEq_case`), hence `find_match` finds the same
  match and binds `Sim`-related fields (`findMatch_case`), the rewritten line stays related (`replaceRange_tokens`), and
  currency and variable names are looked up case-insensitively (`readCurrency_case`, `findLocation_case`, `varKey_case`).

  That the regexes yield `Sim`-related token lists for a line and its rewritten variant (month and
  zone lookup, comment and blank recognition) is decided by the metamorphic enumeration.
-/
import SC.Engine
namespace SCP.C16
open SC
variable {F : Type} [Num F]
set_option linter.unusedSectionVars false

/-- equal up to letter case (as the calculator compares words: `to_lowercase`) -/
def CaseEq (a b : String) : Prop := lowerStr a = lowerStr b

theorem lowerEq_congr {a a' b b' : String} (ha : CaseEq a a') (hb : CaseEq b b') : lowerEq a b = lowerEq a' b' := by
  unfold lowerEq; rw [show lowerStr a = lowerStr a' from ha, show lowerStr b = lowerStr b' from hb]

inductive TokSim : Tok F → Tok F → Prop
  | text (a b : String) (h : CaseEq a b) : TokSim (.text a) (.text b)
  | refl (t : Tok F) : TokSim t t

/-- token infos equal up to offsets, original text and the letter case of a text token -/
def Sim (x y : TokInfo F) : Prop :=
  x.active = y.active ∧ ((x.tok = none ∧ y.tok = none) ∨ ∃ a b, x.tok = some a ∧ y.tok = some b ∧ TokSim a b)

theorem sim_of_eq {x y : TokInfo F} (ha : x.active = y.active) (ht : x.tok = y.tok) : Sim x y := by
  refine ⟨ha, ?_⟩
  cases h : y.tok with
  | none => exact .inl ⟨ht.trans h, rfl⟩
  | some a => exact .inr ⟨a, a, ht.trans h, rfl, .refl a⟩

theorem tokFieldCompare_case (t t' : Tok F) (f : Field) (h : TokSim t t') :
    tokFieldCompare t f = tokFieldCompare t' f := by
  cases h with
  | refl => rfl
  | text a b hab =>
    -- only a word field and a word-group field look at the letters of a text token
    cases f with
    | text name expected =>
      cases expected with
      | none => rfl
      | some e => exact lowerEq_congr rfl hab
    | group name items => exact congrArg items.any (funext fun _ => lowerEq_congr rfl hab)
    | _ => rfl

theorem tokEq_case (t t' p : Tok F) (h : TokSim t t') : tokEq t p = tokEq t' p := by
  cases h with
  | refl => rfl
  | text a b hab =>
    cases p with
    | text s => exact lowerEq_congr hab rfl
    | field f => exact tokFieldCompare_case (.text a) (.text b) f (.text a b hab)
    | _ => rfl

theorem infoEq_case (x y p : TokInfo F) (h : Sim x y) : infoEq x p = infoEq y p := by
  obtain ⟨hact, htok⟩ := h
  unfold infoEq
  rcases htok with ⟨hx, hy⟩ | ⟨a, b, hx, hy, hab⟩
  · rw [hx, hy]
  · rw [hx, hy, hact]
    cases p.tok with
    | none => rfl
    | some q => simp only; rw [tokEq_case a b q hab]

inductive Rel2 {α β : Type} (R : α → β → Prop) : List α → List β → Prop
  | nil : Rel2 R [] []
  | cons {a b as bs} (h : R a b) (t : Rel2 R as bs) : Rel2 R (a :: as) (b :: bs)

def FSim (a b : String × TokInfo F) : Prop := a.1 = b.1 ∧ Sim a.2 b.2

theorem rel_ite {α β : Type} (R : α → β → Prop) {a b : α} {a' b' : β} (c : Prop) [Decidable c] (h₁ : R a a') (h₂ : R b b') :
    R (if c then a else b) (if c then a' else b') := by
  split <;> assumption

theorem insert_sim (fs fs' : Fields F) (k : String) (v v' : TokInfo F) (h : Rel2 FSim fs fs') (hv : Sim v v') :
    Rel2 FSim (Fields.insert fs k v) (Fields.insert fs' k v') := by
  induction h with
  | nil => exact .cons ⟨rfl, hv⟩ .nil
  | @cons a b as bs hab t ih =>
    obtain ⟨k1, v1⟩ := a
    obtain ⟨k2, v2⟩ := b
    obtain ⟨rfl, hs⟩ : k1 = k2 ∧ Sim v1 v2 := hab
    -- the three branches of `Fields.insert`: the same key is overwritten, a greater one gets the entry in front, else on
    exact rel_ite _ _ (.cons ⟨rfl, hv⟩ t) (rel_ite _ _ (.cons ⟨rfl, hv⟩ (.cons ⟨rfl, hs⟩ t)) (.cons ⟨rfl, hs⟩ ih))

def MSim (m m' : Match F) : Prop := m.found = m'.found ∧ m.start = m'.start ∧ m.stop = m'.stop ∧ Rel2 FSim m.fields m'.fields

theorem sameTok_case (vs : Vars F) (p x y : TokInfo F) (a b : Tok F) (h : Sim x y) (hab : TokSim a b) :
    sameTok vs p x a = sameTok vs p y b := by
  have hi := infoEq_case x y p h
  cases hab with
  | text => exact hi
  | refl =>
    unfold sameTok
    split
    · rfl        -- a variable is compared through the value it holds: the info is not looked at
    · exact hi

/- The two scans take the same branch at every test (`hxy.1`, `sameTok_case`), so the proof follows the
   definition of `findMatch.go` test by test with `rel_ite`; a `split` on the unfolded goal is very slow. -/
theorem go_case (vs : Vars F) (pat : List (TokInfo F)) (rest rest' : List (TokInfo F)) (h : Rel2 Sim rest rest') :
    ∀ (target ruleIdx start : Nat) (fs fs' : Fields F), Rel2 FSim fs fs' →
      MSim (findMatch.go vs pat pat.length rest target ruleIdx start fs) (findMatch.go vs pat pat.length rest' target ruleIdx start fs') := by
  induction h with
  | nil => exact fun _ _ _ _ _ hf => ⟨rfl, rfl, rfl, hf⟩
  | @cons x y xs ys hxy t ih =>
    intro target ruleIdx start fs fs' hf
    rw [findMatch.go, findMatch.go, hxy.1]
    refine rel_ite _ _ (ih _ _ _ _ _ hf) ?_
    rcases hxy.2 with ⟨hx, hy⟩ | ⟨a, b, hx, hy, hab⟩
    · rw [hx, hy]
      exact rel_ite _ _ ⟨rfl, rfl, rfl, hf⟩ (ih _ _ _ _ _ hf)
    · rw [hx, hy]
      cases pat[ruleIdx]? with
      | none => exact ⟨rfl, rfl, rfl, hf⟩
      | some p =>
        have hf' : Rel2 FSim (match fieldNameOf p with | some k => fs.insert k x | none => fs)
            (match fieldNameOf p with | some k => fs'.insert k y | none => fs') := by
          cases fieldNameOf p with
          | none => exact hf
          | some k => exact insert_sim fs fs' k x y hf hxy
        simp only [sameTok_case vs p x y a b hxy hab]
        exact rel_ite _ _ (rel_ite _ _ ⟨rfl, rfl, rfl, hf'⟩ (ih _ _ _ _ _ hf')) (rel_ite _ _ ⟨rfl, rfl, rfl, hf⟩ (ih _ _ _ _ _ hf))

/-- `find_match` cannot see offsets or the letter case of words: on `Sim`-related lines it finds the
    same match and binds `Sim`-related fields -/
theorem findMatch_case (vs : Vars F) (pat infos infos' : List (TokInfo F)) (h : Rel2 Sim infos infos') :
    MSim (findMatch vs pat infos) (findMatch vs pat infos') := by
  unfold findMatch
  exact go_case vs pat infos infos' h 0 0 0 [] [] .nil

/-- a pure shift of offsets (what additional blanks do to the lexed tokens) -/
def reoffset (f : Nat → Nat) (ti : TokInfo F) : TokInfo F := { ti with start := f ti.start, stop := f ti.stop }

theorem rel2_map_reoffset (f : Nat → Nat) (infos : List (TokInfo F)) : Rel2 Sim infos (infos.map (reoffset f)) := by
  induction infos with
  | nil => exact .nil
  | cons x xs ih => exact .cons (sim_of_eq rfl rfl) ih

theorem findMatch_offsets (vs : Vars F) (pat infos : List (TokInfo F)) (f : Nat → Nat) :
    MSim (findMatch vs pat infos) (findMatch vs pat (infos.map (reoffset f))) :=
  findMatch_case vs pat infos _ (rel2_map_reoffset f infos)

theorem rel2_length {α β : Type} {R : α → β → Prop} {l : List α} {l' : List β} (h : Rel2 R l l') : l.length = l'.length := by
  induction h with
  | nil => rfl
  | cons _ _ ih => simp [ih]

theorem rel2_insert {α β : Type} {R : α → β → Prop} {l : List α} {l' : List β} {x : α} {y : β} (h : Rel2 R l l') (hxy : R x y)
    (n : Nat) : Rel2 R (l.take n ++ x :: l.drop n) (l'.take n ++ y :: l'.drop n) := by
  induction h generalizing n with
  | nil => simp only [List.take_nil, List.drop_nil]; exact .cons hxy .nil
  | cons hd t ih => cases n with
    | zero => exact .cons hxy (.cons hd t)
    | succ n => exact .cons hd (ih n)

theorem rel2_mapIdx_deactivate (infos infos' : List (TokInfo F)) (h : Rel2 Sim infos infos') (p : Nat → Bool) :
    Rel2 Sim (infos.mapIdx fun i ti => if p i then { ti with active := false } else ti)
      (infos'.mapIdx fun i ti => if p i then { ti with active := false } else ti) := by
  induction h generalizing p with
  | nil => exact .nil
  | @cons x y xs ys hxy t ih =>
    simp only [List.mapIdx_cons]
    exact .cons (rel_ite _ _ ⟨rfl, hxy.2⟩ hxy) (ih fun i => p (i + 1))

theorem replaceRange_tokens (infos infos' : List (TokInfo F)) (m m' : Match F) (t : Tok F)
    (h : Rel2 Sim infos infos') (hm : m.start = m'.start ∧ m.stop = m'.stop) :
    Rel2 Sim (replaceRange infos m t) (replaceRange infos' m' t) := by
  unfold replaceRange
  rw [← hm.1, ← hm.2, List.append_assoc, List.append_assoc]
  refine rel2_insert (rel2_mapIdx_deactivate infos infos' h fun i => decide (m.start ≤ i) && decide (i < m.stop)) ?_ _
  exact sim_of_eq rfl rfl

/-- currency names (codes, aliases, symbols) are looked up case-insensitively -/
theorem readCurrency_case (c : Cfg F) (name name' : String) (h : CaseEq name name') :
    readCurrency c name = readCurrency c name' := by
  unfold readCurrency CaseEq at *
  rw [h]

theorem infoEqTok_case (x y : TokInfo F) (r : Tok F) (h : Sim x y) : infoEqTok x r = infoEqTok y r := by
  obtain ⟨_, htok⟩ := h
  unfold infoEqTok
  rcases htok with ⟨hx, hy⟩ | ⟨a, b, hx, hy, hab⟩
  · rw [hx, hy]
  · rw [hx, hy]
    cases hab with
    | refl => rfl
    | text s s' hss =>
      cases r with
      | text q => exact lowerEq_congr hss rfl
      | field f => exact tokFieldCompare_case (.text s) (.text s') f (.text s s' hss)
      | _ => rfl

theorem matchesAt_case (toks toks' : List (TokInfo F)) (name : List (Tok F)) (h : Rel2 Sim toks toks') :
    matchesAt toks name = matchesAt toks' name := by
  induction name generalizing toks toks' with
  | nil => simp [matchesAt]
  | cons r name ih =>
    cases h with
    | nil => rfl
    | cons hxy t => simp only [matchesAt]; rw [infoEqTok_case _ _ r hxy, ih _ _ t]

/-- a variable name is found at the same position whatever the letter case of the line -/
theorem findLocation_case (toks toks' : List (TokInfo F)) (name : List (Tok F)) (h : Rel2 Sim toks toks') :
    findLocation toks name = findLocation toks' name := by
  induction h with
  | nil => rfl
  | @cons x y xs ys hxy t ih =>
    simp only [findLocation]
    rw [matchesAt_case (x :: xs) (y :: ys) name (.cons hxy t), ih]

/-- the session key of a name does not depend on the letter case it was written in -/
theorem varKey_case (toks toks' : List (Tok F)) (h : Rel2 TokSim toks toks') : varKey toks = varKey toks' := by
  unfold varKey
  congr 1
  induction h with
  | nil => rfl
  | cons hab _ ih =>
    rw [List.map_cons, List.map_cons, ih]
    cases hab with
    | refl => rfl
    | text s s' hss => exact congrArg (· :: _) hss

/-- a type-less (blank / comment) token inside a line: while a pattern is incomplete it neither
    matches nor resets the pattern -/
theorem untyped_skipped (vs : Vars F) (pat : List (TokInfo F)) (tok : TokInfo F) (rest : List (TokInfo F))
    (target ruleIdx start : Nat) (fs : Fields F) (ha : tok.active = true) (hn : tok.tok = none) (hinc : pat.length ≠ ruleIdx) :
    findMatch.go vs pat pat.length (tok :: rest) target ruleIdx start fs =
      findMatch.go vs pat pat.length rest (target + 1) ruleIdx start fs := by
  simp [findMatch.go, ha, hn, hinc]

/-! the same word two blanks further right is `Sim`-related -/
example : Sim ({ start := 3, stop := 5, tok := some (.text "to") } : TokInfo Rat) { start := 5, stop := 7, tok := some (.text "to") } :=
  sim_of_eq rfl rfl

end SCP.C16
