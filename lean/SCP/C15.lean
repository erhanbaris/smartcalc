/-
  SCP.C15 — Printed results can be typed back in: formatter and reader agree (token level).

  `print (read (print v)) = print v` is assembled per kind from the formatter / reader theorems:

    * numbers, percentages, money amounts, unit amounts (all use `format_number`):
      the printed digits denote exactly the rounded value q/10ⁿ (`SCP.C07.fixedParts_value`), and printing
      THAT value again yields the same digits (`fixed_idempotent`: no second rounding); `SCP.C07.format_shape` gives
      the printed text, `SCP.C08.read_write` reads it back to the digit string for every admissible
      separator pair; `printed_reads_back` composes the last two
    * durations: `readPart_eq`: a printed part `count unit` (greedy decomposition, `SCP.C10.greedy_*`)
      reads back through `duration_parse` to exactly its printed length, PROVIDED it is not
      `12 months` or more (a printed month is 30 days, a read `12 months` is a 365-day year); that
      juxtaposed parts are added is string level.  `months12_witness`: 364 days print as
      `12 months 4 days`, which reads as 369 days (known finding C15-J1)
    * based integers: `SCP.C13.print_read` (every n, bases 2, 8, 16)
    * data obligations on the regenerated tables: every unit is printed with a word its own
      literals are read with (`unit_words_readable`, compared as the reader does, lower-cased);
      the month names used for printing are configured spellings (`print_months_are_spellings`)

  Which TEXT the lexer accepts (one token of the right kind for every printed form, all separator
  / digit configurations, every language) is string level: enumeration in tools/props/c15.py.
-/
import SC.Format
import SC.Rules
import SC.Gen.Config
import SC.Gen.Tables
import SCP.C07
import SCP.C08
import SCP.C10
namespace SCP.C15
open SC

/-- printing is a fixpoint: the digits printed for `num/den` at `n` decimals denote the value
    `q / 10ⁿ` (q the correctly rounded quotient), and printing that value again gives the same
    digits -/
theorem fixed_idempotent (num den n : Nat) :
    fixedParts (SCP.C07.roundQuot (num * 10 ^ n) den) (10 ^ n) n = fixedParts num den n := by
  rw [SCP.C07.fixedParts_eq, SCP.C07.roundQuot_mul _ _ (Nat.pow_pos (by omega)), ← SCP.C07.fixedParts_eq]

/-- the printed text of a number (grouped integer digits, decimal separator, fraction digits) is
    read back to `integer digits . fraction digits` under the separators it was printed with:
    `fixedParts` yields digits only (`SCP.C07.fixedParts_isDigit`) -/
theorem fixedParts_reads_back (d t : Char) (hd : SCP.C08.IsSep d) (ht : SCP.C08.IsSep t) (hdt : d ≠ t) (num den n : Nat) :
    strReplace (strReplace (groupThousands [t] (fixedParts num den n).1 ++ d :: (fixedParts num den n).2) [t] []) [d] ['.'] =
      (fixedParts num den n).1 ++ '.' :: (fixedParts num den n).2 :=
  have hdig := SCP.C07.fixedParts_isDigit num den n
  SCP.C08.read_write d t hd ht hdt _ _ (fun c hc => hdig c (List.mem_append_left _ hc)) (fun c hc => hdig c (List.mem_append_right _ hc))

set_option linter.unusedVariables false in
/-- the same with the digits as a hypothesis (which always holds) -/
theorem printed_reads_back (d t : Char) (hd : SCP.C08.IsSep d) (ht : SCP.C08.IsSep t) (hdt : d ≠ t) (num den n : Nat)
    (hdig : ∀ c ∈ (fixedParts num den n).1 ++ (fixedParts num den n).2, isDigit c = true) :
    strReplace (strReplace (groupThousands [t] (fixedParts num den n).1 ++ d :: (fixedParts num den n).2) [t] []) [d] ['.'] =
      (fixedParts num den n).1 ++ '.' :: (fixedParts num den n).2 :=
  fixedParts_reads_back d t hd ht hdt num den n

/-- seconds a printed part `(kind, count)` reads back to: print kinds 0 second … 6 year are read
    through `duration_parse` with the constants 5 second, 6 minute, 7 hour, 1 day, 2 week, 3 month, 4 year -/
def constOfPrintKind : Nat → Nat
  | 0 => 5 | 1 => 6 | 2 => 7 | 3 => 1 | 4 => 2 | 5 => 3 | 6 => 4 | _ => 0

def readPart (p : Nat × Int) : Option Int := durationOfUnit (constOfPrintKind p.1) p.2

/-- the printed length of a part (`SCP.C10.printLen`) is what it reads back to, except `12 months` -/
theorem readPart_eq (k : Nat) (n : Int) (hk : k ≤ 6) (hn : 0 ≤ n) (hok : durOk (n * SCP.C10.printLen k) = true)
    (h12 : ¬ (k = 5 ∧ 12 ≤ n)) : readPart (k, n) = some (n * SCP.C10.printLen k) := by
  -- `printLen k` and `unitLen (constOfPrintKind k)` evaluate to the same literal
  show durationOfUnit (constOfPrintKind k) n = _
  obtain rfl | rfl | hk := (by decide : ∀ k ≤ 6, k = 3 ∨ k = 5 ∨ k = 0 ∨ k = 1 ∨ k = 2 ∨ k = 4 ∨ k = 6) k hk
  · exact SCP.C10.parse_days n hn hok                 -- days
  · -- months: fewer than 12 are 30 days each (`n / 12 = 0`, `n % 12 = n`; one `omega` for it costs 0.5 M heartbeats more)
    have h : n < 12 := Int.not_le.mp fun h => h12 ⟨rfl, h⟩
    have e := SCP.C10.parse_months n hn
    rw [Int.ediv_eq_zero_of_lt hn h, Int.emod_eq_of_lt hn h, Int.mul_zero, Int.zero_add, Int.mul_comm 30,
      Int.mul_assoc] at e
    exact e hok
  · -- second, minute, hour, week, year: one length each
    rcases hk with rfl | rfl | rfl | rfl | rfl <;> exact SCP.C10.parse_len _ n (by decide) hok

/-- 364 days print as `12 months 4 days`; read back that is 369 days (finding C15-J1) -/
theorem months12_witness :
    durationParts (364 * 86400) = [(5, 12), (3, 4)] ∧
    readPart (5, 12) = some (365 * 86400) ∧ readPart (3, 4) = some (4 * 86400) := by decide

theorem toLower_beq (a b : String) :
    (a.toLower == b.toLower) = (a.toList.map Char.toLower == b.toList.map Char.toLower) := by
  rw [Bool.eq_iff_iff]
  simp [String.toLower, ← String.toList_inj]

/-- every unit is printed with a word that (lower-cased, as the reader compares) is one of the
    words its literals are read with -/
theorem unit_words_readable :
    Gen.unitWords.all (fun u => u.2.2.2.any fun w => w.toLower == u.2.2.1.toLower) = true := by
  -- `String.map` walks byte positions, which the kernel evaluates about a hundred times slower than the list
  simp only [toLower_beq]
  decide +kernel

theorem any_swap {α β} [BEq α] [BEq β] (l : List (α × β)) (a : α) (b : β) :
    l.any (fun kv => kv.1 == a && kv.2 == b) = l.any (fun kv => kv.2 == b && kv.1 == a) := by
  simp only [Bool.and_comm]

/-- the month names used for printing are configured spellings of that month -/
theorem print_months_are_spellings :
    (Gen.cfg Rat).langs.all (fun l =>
      match assoc? Gen.monthNames l.name with
      | none => false
      | some names =>
        (List.range 12).all fun i =>
          match l.months[i]? with
          | none => false
          | some (s, lg) => names.any (fun kv => kv.1 == s && kv.2 == i + 1) && names.any (fun kv => kv.1 == lg && kv.2 == i + 1)) = true := by
  -- the month number is compared first (`&&` evaluates its left argument first): the kernel then compares
  -- two or three names per month and not the whole list; comparing strings is what costs
  simp only [any_swap]
  decide +kernel

example : fixedParts 2675 1000 2 = (['2'], ['6', '8']) := by decide
example : fixedParts (SCP.C07.roundQuot (2675 * 10 ^ 2) 1000) (10 ^ 2) 2 = (['2'], ['6', '8']) := by decide

end SCP.C15
