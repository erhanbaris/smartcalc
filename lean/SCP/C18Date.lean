/-
  SCP.C18Date — `SmartCalc::set_date_rule` between registrations (C18: "after any sequence of registrations and
  deletions the calculator behaves exactly like a fresh calculator on which only the surviving rules were registered").

  `set_date_rule` rebuilds the `small_date` rule of one language: it removes the old one from the language's rule list and
  puts the new one in front.  The rule list is the same list `add_rule` / `delete_rule` work on, so the call must not
  disturb what was registered (the seeded change C18-9, /verif/seeded, dropped every API rule of the language there), and the registration calls must not
  disturb the built-in rules (seeded changes C10-10, C18-10).  All three calls rewrite the rule list of one language by a list function
  (`setDateRule_rules`, `SCP.C18.addRule_rules`, `SCP.C18.deleteRule_rules`), so whatever that function preserves — the API
  rules, the internal rules — is preserved in every language (`observed_same`).
  Tie: the histories of the C18 check interleave `set_date_rule` (the configured patterns of the language) with the
  registrations, on the implementation and on the model (driver op `date_rule_text`, patterns tokenised by the model).
-/
import SC.Calc
import SCP.C18
namespace SCP.C18Date
open SC SCP.C18
variable {F : Type} [Num F]
set_option linter.unusedSectionVars false

/-- what `set_date_rule` does to the rule list of its language -/
def newRules (pats : List (List (TokInfo F))) (rs : List (Rule F)) : List (Rule F) :=
  ⟨.smallDate, pats⟩ :: rs.filter (fun r => !r.fn.isSmallDate)

theorem setDateRule_eq (c : Cfg F) (lang : String) (pats : List (List (TokInfo F))) :
    setDateRule c lang pats = mapRules c lang (newRules pats) := rfl

theorem setDateRule_rules (c : Cfg F) (lang L : String) (pats : List (List (TokInfo F))) :
    ((setDateRule c lang pats).lang? L).map (·.rules) =
      ((c.lang? L).map (·.rules)).map (fun rs => if lang = L then newRules pats rs else rs) := by
  rw [setDateRule_eq, mapRules_rules]

/-- an observation `f` of the rule lists that the list transformer `g` of a call does not change is the same, for every
    language, before and after the call -/
theorem observed_same {α : Type} {c c' : Cfg F} {L : String} {g : List (Rule F) → List (Rule F)} (f : List (Rule F) → α)
    (h : (c'.lang? L).map (·.rules) = ((c.lang? L).map (·.rules)).map g) (hf : ∀ rs, f (g rs) = f rs) :
    (c'.lang? L).map (fun l => f l.rules) = (c.lang? L).map (fun l => f l.rules) := by
  have := congrArg (Option.map f) h
  simpa only [Option.map_map, Function.comp_def, hf] using this

theorem api_not_smallDate (r : Rule F) (h : isApi r = true) : r.fn.isSmallDate = false := by
  unfold isApi at h
  split at h
  next heq => rw [heq]; rfl
  next => cases h

theorem newRules_api (pats : List (List (TokInfo F))) (rs : List (Rule F)) :
    (newRules pats rs).filter isApi = rs.filter isApi := by
  -- the new head is not an API rule, and the inner filter drops no API rule
  rw [newRules, List.filter_cons_of_neg (by simp [isApi]), List.filter_filter]
  refine List.filter_congr fun r _ => ?_
  cases hr : isApi r with
  | false => rfl
  | true => rw [api_not_smallDate r hr]; rfl

/-- registrations survive: the API rules of every language are the same list after `set_date_rule` -/
theorem setDateRule_api (c : Cfg F) (lang L : String) (pats : List (List (TokInfo F))) :
    ((setDateRule c lang pats).lang? L).map (fun l => l.rules.filter isApi) =
      (c.lang? L).map (fun l => l.rules.filter isApi) :=
  observed_same (List.filter isApi) (setDateRule_rules c lang L pats) fun rs => by split <;> simp only [newRules_api]

theorem any_named_filter (rs : List (Rule F)) (name : String) :
    rs.any (·.isApiNamed name) = (rs.filter isApi).any (·.isApiNamed name) := by
  rw [List.any_filter]
  congr 1; funext r
  cases h : r.isApiNamed name with
  | false => rw [Bool.and_false]
  | true => rw [named_api r name h]; rfl

/-- `delete_rule(L, name)` finds the name after `set_date_rule` iff it found it before -/
theorem setDateRule_named (c : Cfg F) (lang L name : String) (pats : List (List (TokInfo F))) :
    ((setDateRule c lang pats).lang? L).map (fun l => l.rules.any (·.isApiNamed name)) =
      (c.lang? L).map (fun l => l.rules.any (·.isApiNamed name)) :=
  observed_same (fun rs => rs.any (·.isApiNamed name)) (setDateRule_rules c lang L pats) fun rs => by
    split
    · rw [any_named_filter, newRules_api, ← any_named_filter]
    · rfl

/-- registering an API rule and setting the date rule commute (rule lists of every language) -/
theorem setDateRule_add_comm (c : Cfg F) (lang L : String) (pats : List (List (TokInfo F))) (r : Rule F) (hr : isApi r = true) (lang' : String) :
    ((setDateRule (addRule c lang' r).1 lang pats).lang? L).map (·.rules) =
      (((addRule (setDateRule c lang pats) lang' r).1).lang? L).map (·.rules) := by
  -- in the one language both calls address, an API rule appended behind passes the filter of `newRules`
  have key (rs : List (Rule F)) : newRules pats (rs ++ [r]) = newRules pats rs ++ [r] := by
    simp [newRules, List.filter_append, api_not_smallDate r hr]
  rw [setDateRule_rules, addRule_rules, addRule_rules, setDateRule_rules]
  cases c.lang? L with
  | none => rfl
  | some l => by_cases h1 : lang = L <;> by_cases h2 : lang' = L <;> simp [h1, h2, key]

theorem setDateRule_idem (c : Cfg F) (lang L : String) (pats : List (List (TokInfo F))) :
    ((setDateRule (setDateRule c lang pats) lang pats).lang? L).map (·.rules) = ((setDateRule c lang pats).lang? L).map (·.rules) := by
  -- the second call removes the head the first one put there and filters a filtered list
  have key (rs : List (Rule F)) : newRules pats (newRules pats rs) = newRules pats rs := by
    simp [newRules, RuleFn.isSmallDate]
  rw [setDateRule_rules, setDateRule_rules]
  cases c.lang? L with
  | none => rfl
  | some l => by_cases h1 : lang = L <;> simp [h1, key]

/-- nothing but the rule lists changes (`mapRules_frame`), spelled out for seven fields -/
theorem setDateRule_frame (c : Cfg F) (lang : String) (pats : List (List (TokInfo F))) :
    (setDateRule c lang pats).units = c.units ∧ (setDateRule c lang pats).rates = c.rates ∧ (setDateRule c lang pats).dec = c.dec ∧
    (setDateRule c lang pats).thou = c.thou ∧ (setDateRule c lang pats).currencies = c.currencies ∧
    (setDateRule c lang pats).bridges = c.bridges ∧ (setDateRule c lang pats).tz = c.tz := by
  obtain ⟨ls, h⟩ := mapRules_frame c lang (newRules pats)
  rw [setDateRule_eq, h]
  exact ⟨rfl, rfl, rfl, rfl, rfl, rfl, rfl⟩

theorem removeFirst_internal (name : String) (rs : List (Rule F)) :
    (removeFirst (·.isApiNamed name) rs).filter (fun r => !isApi r) = rs.filter (fun r => !isApi r) := by
  rw [removeFirst_eq_eraseP]
  rcases List.exists_or_eq_self_of_eraseP (·.isApiNamed name) rs with h | ⟨a, l₁, l₂, -, ha, rfl, h⟩
  · rw [h]
  · -- the rule that goes has the name, so it is an API rule and the filter drops it anyway
    rw [h, List.filter_append, List.filter_append, List.filter_cons_of_neg (by simp [named_api a name ha])]

/-- built-in rules are out of reach of `delete_rule`: whatever name is given — also the name of a built-in rule function —
    the internal rules of every language are the same list afterwards (the seeded changes C10-10, C18-10 removed `as_duration`, `convert_money`) -/
theorem deleteRule_keeps_internal (c : Cfg F) (lang name L : String) :
    (((deleteRule c lang name).1).lang? L).map (fun l => l.rules.filter (fun r => !isApi r)) =
      (c.lang? L).map (fun l => l.rules.filter (fun r => !isApi r)) :=
  observed_same (List.filter fun r => !isApi r) (deleteRule_rules c lang name L) fun rs => by
    split
    · exact removeFirst_internal name rs
    · rfl

/-- … and of `add_rule`: a registration appends an API rule, the internal rules stay as they are -/
theorem addRule_keeps_internal (c : Cfg F) (lang L : String) (r : Rule F) (hr : isApi r = true) :
    (((addRule c lang r).1).lang? L).map (fun l => l.rules.filter (fun r => !isApi r)) =
      (c.lang? L).map (fun l => l.rules.filter (fun r => !isApi r)) :=
  observed_same (List.filter fun r => !isApi r) (addRule_rules c lang r L) fun rs => by
    split
    · simp [List.filter_append, hr]
    · rfl

end SCP.C18Date
