/-
  SCP.Lemmas.Match — `findMatch` on a line that spells a pattern out: as many tokens as the
  pattern has positions, each active, typed and accepted at its position.  The match is the
  whole line and binds every named position to its token.  The `phrase_*` theorems of C05, C09,
  C10, C11 and C14 are instances: they name, position by position, why the token is accepted.
-/
import SC.Engine
namespace SCP.Match
open SC
variable {F : Type} [Num F] {vs : Vars F} {p tok : TokInfo F} {ps toks : List (TokInfo F)}

def bound (fs : Fields F) : List (TokInfo F) → List (TokInfo F) → Fields F
  | p :: ps, tok :: toks =>
    bound (match fieldNameOf p with | some k => fs.insert k tok | none => fs) ps toks
  | _, _ => fs

def Hit (vs : Vars F) (p tok : TokInfo F) : Prop :=
  tok.active = true ∧ ∃ t, tok.tok = some t ∧ sameTok vs p tok t = true

/-- `toks` spells `ps` out -/
@[reducible] def Hits (vs : Vars F) : List (TokInfo F) → List (TokInfo F) → Prop
  | [], [] => True
  | p :: ps, tok :: toks => Hit vs p tok ∧ Hits vs ps toks
  | _, _ => False

/-- the scan with the pattern positions `< i` already matched and `target` tokens consumed: a rest that spells
    `pat.drop i` out is accepted to its end, binding its named positions on top of `fs` -/
theorem go_hits (pat rest : List (TokInfo F)) :
    ∀ (i target start : Nat) (fs : Fields F), i < pat.length → Hits vs (pat.drop i) rest →
      findMatch.go vs pat pat.length rest target i start fs =
        ⟨true, start, target + rest.length, bound fs (pat.drop i) rest⟩ := by
  induction rest with
  | nil =>
    intro i _ _ _ hi h
    rw [List.drop_eq_getElem_cons hi] at h
    cases h
  | cons tok rest ih =>
    intro i target start fs hi h
    rw [List.drop_eq_getElem_cons hi] at h ⊢
    obtain ⟨⟨hact, t, ht, hsame⟩, hrest⟩ := h
    simp only [findMatch.go, hact, ht, List.getElem?_eq_getElem hi, hsame, bound,
      Bool.not_true, Bool.false_eq_true, if_false, if_true, List.length_cons]
    by_cases hlast : pat.length = i + 1
    · -- the pattern is used up, so is the line
      rw [if_pos hlast]
      rw [List.drop_eq_nil_of_le (by omega)] at hrest ⊢
      cases rest with
      | nil => rfl
      | cons _ _ => exact hrest.elim
    · rw [if_neg hlast, ih (i + 1) (target + 1) start _ (by omega) hrest, Nat.add_right_comm]
      rfl

theorem findMatch_hits (h : Hits vs (p :: ps) (tok :: toks)) :
    findMatch vs (p :: ps) (tok :: toks) = ⟨true, 0, toks.length + 1, bound [] (p :: ps) (tok :: toks)⟩ := by
  simpa [findMatch] using go_hits (p :: ps) (tok :: toks) 0 0 0 [] (Nat.succ_pos _) h

/-- the same in the form the `phrase_*` theorems have -/
theorem findMatch_spelled {fs : Fields F} (h : Hits vs (p :: ps) (tok :: toks))
    (hfs : bound [] (p :: ps) (tok :: toks) = fs) :
    (findMatch vs (p :: ps) (tok :: toks)).found = true ∧ (findMatch vs (p :: ps) (tok :: toks)).fields = fs := by
  rw [findMatch_hits h]
  exact ⟨rfl, hfs⟩

theorem findMatch_found (h : Hits vs (p :: ps) (tok :: toks)) :
    (findMatch vs (p :: ps) (tok :: toks)).found = true :=
  (findMatch_spelled h rfl).1

variable {s e s' e' : Nat} {x x' : String}

/-- a value token at a field position: `field_compare` decides — by evaluation (`rfl`) where no string is compared; where
    one is, pass `(h := …)` as `hit_group` and `hit_word` do.  `ht`: `sameTok` sends a variable to its value and a pattern
    field to the field comparison first, so the lemma is for the other tokens. -/
theorem hit_field {f : Field} {t : Tok F}
    (ht : match t with | .var _ | .field _ => False | _ => True := by trivial)
    (h : tokFieldCompare t f = true := by rfl) :
    Hit vs ⟨s, e, some (.field f), x, true⟩ ⟨s', e', some t, x', true⟩ := by
  refine ⟨rfl, t, rfl, ?_⟩
  cases t with
  | var _ | field _ => exact ht.elim
  | _ => simpa [sameTok, infoEq, tokEq] using h

theorem hit_text {w : String} : Hit vs ⟨s, e, some (.text w), x, true⟩ ⟨s', e', some (.text w), x', true⟩ :=
  ⟨rfl, _, rfl, by simp [sameTok, infoEq, tokEq, lowerEq]⟩

theorem hit_group {k w : String} {ws : List String} (h : w ∈ ws) :
    Hit vs ⟨s, e, some (.field (.group k ws)), x, true⟩ ⟨s', e', some (.text w), x', true⟩ :=
  hit_field (h := List.any_eq_true.mpr ⟨w, h, by simp [lowerEq]⟩)

theorem hit_word {k w : String} :
    Hit vs ⟨s, e, some (.field (.text k (some w))), x, true⟩ ⟨s', e', some (.text w), x', true⟩ :=
  hit_field (h := by simp [tokFieldCompare, lowerEq])

theorem hit_op {o : Op} : Hit vs ⟨s, e, some (.op o), x, true⟩ ⟨s', e', some (.op o), x', true⟩ :=
  ⟨rfl, _, rfl, by simp [sameTok, infoEq, tokEq]⟩

end SCP.Match
