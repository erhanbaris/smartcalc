/-
  SCP.Lemmas.Pass — what `rule_tokinizer` and `dynamic_type_tokinizer` do with the patterns of one rule / one unit
  item: the first pattern that matches and for which a token comes back fires, and the match is replaced by the token.
-/
import SC.Engine
namespace SCP.Lemmas
open SC
variable {F : Type} [Num F]

def firstFiring (vs : Vars F) (f : Match F → Option (Tok F)) (pats : List (List (TokInfo F))) (infos : List (TokInfo F)) :
    Option (List (TokInfo F)) :=
  pats.findSome? fun p =>
    if (findMatch vs p infos).found then (f (findMatch vs p infos)).map (replaceRange infos (findMatch vs p infos)) else none

theorem rule_tryPats_eq (c : Cfg F) (lang : String) (now : Now) (vs : Vars F) (rule : Rule F) (pats : List (List (TokInfo F)))
    (infos : List (TokInfo F)) :
    rulePass.tryPats c lang now vs rule pats infos = firstFiring vs (fun m => applyRule c lang now vs rule.fn m.fields) pats infos := by
  unfold firstFiring
  induction pats with
  | nil => rfl
  | cons p ps ih =>
    rw [rulePass.tryPats, List.findSome?_cons, ← ih]
    dsimp only
    split
    · cases applyRule c lang now vs rule.fn (findMatch vs p infos).fields <;> rfl
    · rfl

theorem unit_tryPats_eq (vs : Vars F) (it : UnitItem F) (pats : List (List (TokInfo F))) (infos : List (TokInfo F)) :
    unitPass.tryPats vs it pats infos =
      firstFiring vs (fun m => (getNumber vs m.fields "value").map fun v => .item (.dyn v ⟨it.group, it.index⟩)) pats infos := by
  unfold firstFiring
  induction pats with
  | nil => rfl
  | cons p ps ih =>
    rw [unitPass.tryPats, List.findSome?_cons, ← ih]
    dsimp only
    cases (findMatch vs p infos).found <;> cases getNumber vs (findMatch vs p infos).fields "value" <;> rfl

theorem firstFiring_some {vs : Vars F} {f : Match F → Option (Tok F)} {pats : List (List (TokInfo F))} {infos infos' : List (TokInfo F)}
    (h : firstFiring vs f pats infos = some infos') :
    ∃ p ∈ pats, ∃ t, (findMatch vs p infos).found = true ∧ infos' = replaceRange infos (findMatch vs p infos) t := by
  obtain ⟨p, hp, h⟩ := List.exists_of_findSome?_eq_some h
  split at h
  · obtain ⟨t, -, rfl⟩ := Option.map_eq_some_iff.mp h
    exact ⟨p, hp, t, ‹_›, rfl⟩
  · cases h

end SCP.Lemmas
