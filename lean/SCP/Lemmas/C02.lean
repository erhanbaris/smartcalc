/-
  SCP.Lemmas.C02 — what SCP.C02 rests on: the AST the parser builds for a tree of SC.Spec.Arith (`ast`), its evaluation
  (`exec_ast`), the parse of a tree's tokens (`parse`, `parse_spine`) and `missing_token_adder` on them.

  The facts about trees are inductions over the four tree types in which every case only plugs lemmas about the MODEL
  together: `execAst_*`, the equations of the parser's functions, `Parses` (an operand is read, given enough fuel) and `Spine`
  (a left-associative chain is read), `insertPlus_*`.  `ToksClosed` / `toks_ind` is the induction for properties of the
  token list alone.

  Fuel: `4 * length + c` on the tokens of a tree, see `Parses`.  SCP.ParserTotal bounds the fuel on EVERY token list, by
  `6 * length + c`: there an unmatched `(` costs its six calls alone, in a tree its `)` shares them.
-/
import SC.Spec.Arith
import SC.Parser
import SC.Eval
import SCP.Lemmas.Rules    -- only for the equation lemmas of `execAst`, which are dear to generate and exist there

namespace SC.Spec
open SC
variable {F : Type} [Num F]

mutual
def Prim.ast : Prim F → Ast F
  | .lit v => .item (.number v .decimal)
  | .paren s => s.ast
def Unary.ast : Unary F → Ast F
  | .prim p => p.ast
  | .neg (.lit v) => .item (.number (Num.mul v (Num.ofInt (-1))) .decimal)
  | .neg (.paren s) => .prefixUnary .minus s.ast
  | .pos (.lit v) => .item (.number (Num.mul v (Num.ofInt 1)) .decimal)
  | .pos (.paren s) => .prefixUnary .plus s.ast
def Prod.ast : Prod F → Ast F
  | .one u => u.ast
  | .mul p u => .binary p.ast .mul u.ast
  | .div p u => .binary p.ast .div u.ast
def Sum.ast : Sum F → Ast F
  | .one p => p.ast
  | .add s p => .binary s.ast .plus p.ast
  | .sub s p => .binary s.ast .minus p.ast
end

section
variable {rates : List (String × F)} {conv : UnitRef → F → UnitRef → Option F} {vs : Vars F}

theorem execAst_number (v : F) :
    execAst rates conv vs (.item (.number v .decimal)) = .ok (.item (.number v .decimal), vs) := by
  rw [execAst]

theorem execAst_plus {a : Ast F} {x : F} (h : execAst rates conv vs a = .ok (.item (.number x .decimal), vs)) :
    execAst rates conv vs (.prefixUnary .plus a) = .ok (.item (.number x .decimal), vs) := by
  simp [execAst, h, bind, Except.bind]

theorem execAst_minus {a : Ast F} {x : F} (h : execAst rates conv vs a = .ok (.item (.number x .decimal), vs)) :
    execAst rates conv vs (.prefixUnary .minus a) = .ok (.item (.number (Num.mul (Num.ofInt (-1)) x) .decimal), vs) := by
  simp [execAst, h, bind, Except.bind, negItem]

theorem execAst_binary {l r : Ast F} {x y z : F} {op : Op}
    (hl : execAst rates conv vs l = .ok (.item (.number x .decimal), vs))
    (hr : execAst rates conv vs r = .ok (.item (.number y .decimal), vs))
    (hz : (binOpOf op).map (applyOp · x y) = some z) :
    execAst rates conv vs (.binary l op r) = .ok (.item (.number z .decimal), vs) := by
  obtain ⟨bop, hop, rfl⟩ := Option.map_eq_some_iff.mp hz
  simp [execAst, hl, hr, hop, calcItem, bind, Except.bind]

/-- the parser's `Ast.none` evaluates to `Val.none` -/
theorem ne_none_of_exec {a : Ast F} {i : Item F} {vs' : Vars F} (h : execAst rates conv vs a = .ok (.item i, vs')) :
    a ≠ .none := by
  rintro rfl
  simp [execAst] at h

end

/- `ast` and `value` of a tree unfold by definition, so each case is the evaluation lemma for the AST it builds. -/
mutual
theorem Prim.exec_ast (rates : List (String × F)) (conv : UnitRef → F → UnitRef → Option F)
    (vs : Vars F) : ∀ p : Prim F,
    execAst rates conv vs p.ast = .ok (.item (.number p.value .decimal), vs)
  | .lit v => execAst_number v
  | .paren s => Sum.exec_ast rates conv vs s
theorem Unary.exec_ast (rates : List (String × F)) (conv : UnitRef → F → UnitRef → Option F)
    (vs : Vars F) : ∀ u : Unary F,
    execAst rates conv vs u.ast = .ok (.item (.number u.value .decimal), vs)
  | .prim p => Prim.exec_ast rates conv vs p
  | .neg (.lit _) | .pos (.lit _) => execAst_number _
  | .neg (.paren s) => execAst_minus (Sum.exec_ast rates conv vs s)
  | .pos (.paren s) => execAst_plus (Sum.exec_ast rates conv vs s)
theorem Prod.exec_ast (rates : List (String × F)) (conv : UnitRef → F → UnitRef → Option F)
    (vs : Vars F) : ∀ p : Prod F,
    execAst rates conv vs p.ast = .ok (.item (.number p.value .decimal), vs)
  | .one u => Unary.exec_ast rates conv vs u
  | .mul p u | .div p u => execAst_binary (Prod.exec_ast rates conv vs p) (Unary.exec_ast rates conv vs u) rfl
theorem Sum.exec_ast (rates : List (String × F)) (conv : UnitRef → F → UnitRef → Option F)
    (vs : Vars F) : ∀ s : Sum F,
    execAst rates conv vs s.ast = .ok (.item (.number s.value .decimal), vs)
  | .one p => Prod.exec_ast rates conv vs p
  | .add s p | .sub s p => execAst_binary (Sum.exec_ast rates conv vs s) (Prod.exec_ast rates conv vs p) rfl
end

/- a product is the sum `.one p`, with the same AST; likewise down to `Prim` -/
theorem Sum.ast_ne_none : ∀ s : Sum F, s.ast ≠ .none := fun s => ne_none_of_exec (s.exec_ast [] (fun _ _ _ => none) [])
theorem Prod.ast_ne_none : ∀ p : Prod F, p.ast ≠ .none := fun p => Sum.ast_ne_none (.one p)
theorem Unary.ast_ne_none : ∀ u : Unary F, u.ast ≠ .none := fun u => Prod.ast_ne_none (.one u)
theorem Prim.ast_ne_none : ∀ p : Prim F, p.ast ≠ .none := fun p => Unary.ast_ne_none (.prim p)

theorem parseLevel_three (fuel : Nat) (ts : List (Tok F)) : parseLevel (fuel + 1) 3 ts = parseUnary fuel ts := by
  rw [parseLevel]; simp

theorem parseLevel_lt {fuel lvl : Nat} {ts ts' : List (Tok F)} {a : Ast F} (hl : lvl < 3)
    (hp : parseLevel fuel (lvl + 1) ts = .ok (a, ts')) (ha : a ≠ .none) :
    parseLevel (fuel + 1) lvl ts = binLoop fuel lvl a ts' := by
  rw [parseLevel]
  simp only [show ¬ lvl ≥ 3 by omega, if_false, hp]

theorem binLoop_none {fuel lvl : Nat} {a : Ast F} {ts : List (Tok F)}
    (h : matchOp (levelOps lvl) ts = none) : binLoop (fuel + 1) lvl a ts = .ok (a, ts) := by
  rw [binLoop]; simp [h]

theorem binLoop_step {fuel lvl : Nat} {a r : Ast F} {o : Op} {ts ts1 ts2 : List (Tok F)}
    (hm : matchOp (levelOps lvl) ts = some (o, ts1))
    (hr : rightLoop fuel lvl ts1 = .ok (r, ts2)) :
    binLoop (fuel + 1) lvl a ts = binLoop fuel lvl (.binary a o r) ts2 := by
  rw [binLoop]; simp [hm, hr]

theorem rightLoop_ok {fuel lvl : Nat} {ts ts' : List (Tok F)} {a : Ast F}
    (hp : parseLevel fuel (lvl + 1) ts = .ok (a, ts')) (ha : a ≠ .none) :
    rightLoop (fuel + 1) lvl ts = .ok (a, ts') := by
  rw [rightLoop]
  simp only [hp]

/-- what may follow a complete product: not `*`, `/`, `%` -/
def ProdEnd (rest : List (Tok F)) : Prop :=
  matchOp (levelOps 2) rest = none ∧ matchOp (levelOps 1) rest = none

/-- what may follow a complete sum: not `*`, `/`, `%`, `+`, `-` -/
def SumEnd (rest : List (Tok F)) : Prop :=
  ProdEnd rest ∧ matchOp (levelOps 0) rest = none

section
omit [Num F]    -- operators only

theorem prodEnd_nil : ProdEnd ([] : List (Tok F)) := by simp [ProdEnd, matchOp]
theorem sumEnd_nil : SumEnd ([] : List (Tok F)) := by simp [SumEnd, ProdEnd, matchOp]
theorem sumEnd_rparen (rest : List (Tok F)) : SumEnd (.op .rparen :: rest) := by
  simp [SumEnd, ProdEnd, matchOp, levelOps]
theorem prodEnd_sumOp {o : Op} (ho : o ∈ levelOps 0) (rest : List (Tok F)) : ProdEnd (.op o :: rest) := by
  simp only [levelOps, List.mem_cons, List.not_mem_nil, or_false] at ho
  rcases ho with rfl | rfl <;> simp [ProdEnd, matchOp, levelOps]

end

/-- From fuel `4 * l.length + c` on, `p` (`parseUnary`, `parseParenBody` or one level) reads the operand `l` in front of `rest`
    as `a` and stops at `rest`.  Fuel bounds the depth of the calls, not their number.  `c` is the depth `p` needs on a literal:
    `parseUnary` 1, one more for every level above it (level 3: 2, …, level 0: 5).  Inside an operand a pair of parentheses
    adds the six calls `parseUnary` → `parseParenBody` → levels 0, 1, 2, 3 → `parseUnary`, an operator one round of its loop:
    4 per token covers both. -/
def Parses (p : Nat → List (Tok F) → PRes F) (c : Nat) (l : List (Tok F)) (a : Ast F) (rest : List (Tok F)) : Prop :=
  ∀ f, f ≥ 4 * l.length + c → p f (l ++ rest) = .ok (a, rest)

theorem fuel_succ : ∀ {f n c : Nat}, f ≥ n + (c + 1) → ∃ g, f = g + 1 ∧ g ≥ n + c
  | g + 1, _, _, h => ⟨g, rfl, Nat.le_of_succ_le_succ h⟩

theorem Parses.lit (v : F) (rest : List (Tok F)) : Parses parseUnary 1 [litTok v] (.item (.number v .decimal)) rest := by
  intro f hf
  obtain ⟨g, rfl, -⟩ := fuel_succ hf
  simp [parseUnary, litTok, parseBasic]

theorem Parses.sign_lit {o : Op} (ho : o.isSign = true) (v : F) (rest : List (Tok F)) :
    Parses parseUnary 1 [.op o, litTok v] (.item (.number (Num.mul v (Num.ofInt (signOf o))) .decimal)) rest := by
  intro f hf
  obtain ⟨g, rfl, -⟩ := fuel_succ hf
  simp [parseUnary, litTok, ho, Tok.isOpOf, prefixOperand]

/-- the body of a parenthesis, a complete sum and the `)`; 2 is level 0's 5 and one call more, less the 4 that the `)` brings -/
theorem Parses.parenBody {l : List (Tok F)} {a : Ast F} {rest : List (Tok F)}
    (hp : Parses (parseLevel · 0) 5 l a (.op .rparen :: rest)) (ha : a ≠ .none) :
    Parses parseParenBody 2 (l ++ [.op .rparen]) a rest := by
  intro f hf
  simp only [List.length_append, List.length_singleton] at hf
  obtain ⟨g, rfl, hg⟩ := fuel_succ hf
  rw [List.append_assoc, parseParenBody]
  simp only [List.cons_append, List.nil_append, hp g (by omega)]
  cases a with
  | none => exact absurd rfl ha
  | _ => simp [matchOp]

theorem Parses.paren {l : List (Tok F)} {a : Ast F} {rest : List (Tok F)} (h : Parses parseParenBody 2 l a rest) :
    Parses parseUnary 1 (.op .lparen :: l) a rest := by
  intro f hf
  obtain ⟨g, rfl, hg⟩ := fuel_succ hf
  simpa [parseUnary, Op.isSign] using h g (by simp only [List.length_cons] at hg; omega)

theorem Parses.sign_paren {o : Op} (ho : o.isSign = true) {l : List (Tok F)} {a : Ast F} {rest : List (Tok F)}
    (h : Parses parseParenBody 2 l a rest) : Parses parseUnary 1 (.op o :: .op .lparen :: l) (.prefixUnary o a) rest := by
  intro f hf
  obtain ⟨g, rfl, hg⟩ := fuel_succ hf
  simp [parseUnary, ho, Tok.isOpOf, h g (by simp only [List.length_cons] at hg; omega)]

theorem Parses.level3 {l : List (Tok F)} {a : Ast F} {rest : List (Tok F)} (h : Parses parseUnary 1 l a rest) :
    Parses (parseLevel · 3) 2 l a rest := by
  intro f hf
  obtain ⟨g, rfl, hg⟩ := fuel_succ hf
  exact (parseLevel_three g _).trans (h g hg)

/-- With fuel `f`, the chain `l` of operands and operators of level `lvl` in front of `rest` leads `parseLevel f lvl` into its
    loop with `a` accumulated and `rest` to go; the loop has used at most one unit of fuel per token and one more. -/
def Spine (lvl c : Nat) (l : List (Tok F)) (a : Ast F) (f : Nat) (rest : List (Tok F)) : Prop :=
  f ≥ 4 * l.length + c → ∃ f', f' + l.length + 1 ≥ f ∧ parseLevel f lvl (l ++ rest) = binLoop f' lvl a rest

theorem Spine.one {lvl c : Nat} (hl : lvl < 3) {l : List (Tok F)} {a : Ast F} {f : Nat} {rest : List (Tok F)}
    (hp : Parses (parseLevel · (lvl + 1)) c l a rest) (ha : a ≠ .none) : Spine lvl (c + 1) l a f rest := by
  intro hf
  obtain ⟨g, rfl, hg⟩ := fuel_succ hf
  exact ⟨g, by omega, parseLevel_lt hl (hp g hg) ha⟩

theorem Spine.step {lvl c : Nat} {l r : List (Tok F)} {a b : Ast F} {o : Op} {f : Nat} {rest : List (Tok F)}
    (hs : Spine lvl (c + 1) l a f (.op o :: (r ++ rest))) (ho : o ∈ levelOps lvl)
    (hr : Parses (parseLevel · (lvl + 1)) c r b rest) (hb : b ≠ .none) :
    Spine lvl (c + 1) (l ++ .op o :: r) (.binary a o b) f rest := by
  intro hf
  simp only [List.length_append, List.length_cons] at hf ⊢
  obtain ⟨f', hf', hp⟩ := hs (by omega)
  obtain ⟨g, rfl⟩ : ∃ g, f' = g + 2 := ⟨f' - 2, by omega⟩
  refine ⟨g + 1, by omega, ?_⟩
  rw [List.append_assoc, List.cons_append, hp]
  exact binLoop_step (by simp [matchOp, ho]) (rightLoop_ok (hr g (by omega)) hb)

theorem Spine.done {lvl c : Nat} {l : List (Tok F)} {a : Ast F} {rest : List (Tok F)} (hc : 2 ≤ c)
    (hs : ∀ f, Spine lvl c l a f rest) (hr : matchOp (levelOps lvl) rest = none) : Parses (parseLevel · lvl) c l a rest := by
  intro f hf
  obtain ⟨f', hf', h2⟩ := hs f hf
  obtain ⟨k, rfl⟩ : ∃ k, f' = k + 1 := ⟨f' - 1, by omega⟩
  exact h2.trans (binLoop_none hr)

/-- `∀ f rest, Spine 2 3 p.toks p.ast f rest` -/
def ProdSpine (p : Prod F) : Prop :=
  ∀ (f : Nat) (rest : List (Tok F)), f ≥ 4 * p.toks.length + 3 →
    ∃ f', f' + p.toks.length + 1 ≥ f ∧ parseLevel f 2 (p.toks ++ rest) = binLoop f' 2 p.ast rest

def SumSpine (s : Sum F) : Prop :=
  ∀ (f : Nat) (rest : List (Tok F)), ProdEnd rest → Spine 0 5 s.toks s.ast f rest

/-- level 1 (`%`, which no tree contains) sees a product as a chain of one operand -/
theorem ProdSpine.parses {p : Prod F} (hs : ProdSpine p) {rest : List (Tok F)} (hr : ProdEnd rest) :
    Parses (parseLevel · 1) 4 p.toks p.ast rest :=
  have h2 : Parses (parseLevel · 2) 3 p.toks p.ast rest := Spine.done (by decide) (hs · rest) hr.1
  Spine.done (by decide) (fun _ => Spine.one (by decide) h2 p.ast_ne_none) hr.2

theorem SumSpine.parses {s : Sum F} (hs : SumSpine s) {rest : List (Tok F)} (hr : SumEnd rest) :
    Parses (parseLevel · 0) 5 s.toks s.ast rest :=
  Spine.done (by decide) (hs · rest hr.1) hr.2

theorem SumSpine.parenBody {s : Sum F} (hs : SumSpine s) (rest : List (Tok F)) :
    Parses parseParenBody 2 (s.toks ++ [.op .rparen]) s.ast rest :=
  .parenBody (hs.parses (sumEnd_rparen rest)) s.ast_ne_none

/- `toks` and `ast` of a tree unfold by definition to the forms of the lemmas above. -/
mutual
theorem Prim.parse : ∀ (p : Prim F) (f : Nat) (rest : List (Tok F)), f ≥ 4 * p.toks.length + 1 →
    parseUnary f (p.toks ++ rest) = .ok (p.ast, rest)
  | .lit v, f, rest, hf => Parses.lit v rest f hf
  | .paren s, f, rest, hf => Parses.paren ((Sum.parse_spine s).parenBody rest) f hf
theorem Unary.parse : ∀ (u : Unary F) (f : Nat) (rest : List (Tok F)), f ≥ 4 * u.toks.length + 1 →
    parseUnary f (u.toks ++ rest) = .ok (u.ast, rest)
  | .prim p, f, rest, hf => Prim.parse p f rest hf
  | .neg (.lit v), f, rest, hf | .pos (.lit v), f, rest, hf => Parses.sign_lit rfl v rest f hf
  | .neg (.paren s), f, rest, hf | .pos (.paren s), f, rest, hf =>
    Parses.sign_paren rfl ((Sum.parse_spine s).parenBody rest) f hf
theorem Prod.parse_spine : ∀ (p : Prod F), ProdSpine p
  | .one u, f, rest => Spine.one (l := u.toks) (by decide) (.level3 (Unary.parse u · rest)) u.ast_ne_none
  | .mul p u, f, rest | .div p u, f, rest =>
    Spine.step (Prod.parse_spine p f _) (by decide) (.level3 (Unary.parse u · rest)) u.ast_ne_none
theorem Sum.parse_spine : ∀ (s : Sum F), SumSpine s
  | .one p, f, rest, hr => Spine.one (l := p.toks) (by decide) ((Prod.parse_spine p).parses hr) p.ast_ne_none
  | .add s p, f, rest, hr | .sub s p, f, rest, hr =>
    Spine.step (Sum.parse_spine s f _ (prodEnd_sumOp (by decide) _)) (by decide) ((Prod.parse_spine p).parses hr) p.ast_ne_none
end

theorem Sum.parseExpr_append (s : Sum F) (rest : List (Tok F)) (hr : SumEnd rest) :
    parseExpr (s.toks ++ rest) = .ok (s.ast, rest) :=
  (Sum.parse_spine s).parses hr _ (by simp [parseFuel]; omega)

theorem Sum.parseExpr_toks (s : Sum F) : parseExpr s.toks = .ok (s.ast, []) := by
  simpa using s.parseExpr_append [] sumEnd_nil

section
omit [Num F]    -- token lists only, no arithmetic

structure ToksClosed (P : List (Tok F) → Prop) : Prop where
  lit : ∀ v, P [litTok v]
  paren : ∀ l, P l → P (.op .lparen :: (l ++ [.op .rparen]))
  sign : ∀ o l, o = .minus ∨ o = .plus → P l → P (.op o :: l)
  bin : ∀ o l r, o = .mul ∨ o = .div ∨ o = .plus ∨ o = .minus → P l → P r → P (l ++ .op o :: r)

mutual
theorem Prim.toks_ind {P} (h : ToksClosed (F := F) P) : ∀ p : Prim F, P p.toks
  | .lit v => h.lit v
  | .paren s => h.paren _ (Sum.toks_ind h s)
theorem Unary.toks_ind {P} (h : ToksClosed (F := F) P) : ∀ u : Unary F, P u.toks
  | .prim p => Prim.toks_ind h p
  | .neg p => h.sign _ _ (.inl rfl) (Prim.toks_ind h p)
  | .pos p => h.sign _ _ (.inr rfl) (Prim.toks_ind h p)
theorem Prod.toks_ind {P} (h : ToksClosed (F := F) P) : ∀ p : Prod F, P p.toks
  | .one u => Unary.toks_ind h u
  | .mul p u => h.bin _ _ _ (.inl rfl) (Prod.toks_ind h p) (Unary.toks_ind h u)
  | .div p u => h.bin _ _ _ (.inr (.inl rfl)) (Prod.toks_ind h p) (Unary.toks_ind h u)
theorem Sum.toks_ind {P} (h : ToksClosed (F := F) P) : ∀ s : Sum F, P s.toks
  | .one p => Prod.toks_ind h p
  | .add s p => h.bin _ _ _ (.inr (.inr (.inl rfl))) (Sum.toks_ind h s) (Prod.toks_ind h p)
  | .sub s p => h.bin _ _ _ (.inr (.inr (.inr rfl))) (Sum.toks_ind h s) (Prod.toks_ind h p)
end

theorem insertPlus_lit (v : F) (rest : List (Tok F)) :
    insertPlus false (litTok v :: rest) = litTok v :: insertPlus true rest := by
  simp [insertPlus, litTok, Tok.isOp, Tok.isOpOf]

theorem insertPlus_true_lit (v : F) (ts : List (Tok F)) :
    insertPlus true (litTok v :: ts) = .op .plus :: insertPlus false (litTok v :: ts) := by
  simp [insertPlus, litTok, Tok.isOp, Tok.isOpOf]

theorem insertPlus_op (b : Bool) (o : Op) (ho : o ≠ .rparen) (rest : List (Tok F)) :
    insertPlus b (.op o :: rest) = .op o :: insertPlus false rest := by
  simp [insertPlus, Tok.isOp, Tok.isOpOf, ho]

theorem insertPlus_rparen (b : Bool) (rest : List (Tok F)) :
    insertPlus b (.op .rparen :: rest) = .op .rparen :: insertPlus true rest := by
  simp [insertPlus, Tok.isOpOf]

/-- the tokens of a tree are entered with "no operator required" (line start, or right after `(`, a sign
    or a binary operator), are copied unchanged, and are left with "operator required" (a tree ends with
    a literal or with `)`); inside the tree a `)` is followed by an operator, another `)` or the end -/
theorem insertPlus_closed :
    ToksClosed (F := F) fun l => ∀ rest, insertPlus false (l ++ rest) = l ++ insertPlus true rest where
  lit v rest := by simp [insertPlus_lit]
  paren l ih rest := by simp [insertPlus_op, ih, insertPlus_rparen]
  sign o l ho ih rest := by rcases ho with rfl | rfl <;> simp [insertPlus_op, ih]
  bin o l r ho ihl ihr rest := by rcases ho with rfl | rfl | rfl | rfl <;> simp [ihl, insertPlus_op, ihr]

theorem Prim.insertPlus_append : ∀ (p : Prim F) (rest : List (Tok F)),
    insertPlus false (p.toks ++ rest) = p.toks ++ insertPlus true rest := Prim.toks_ind insertPlus_closed
theorem Unary.insertPlus_append : ∀ (u : Unary F) (rest : List (Tok F)),
    insertPlus false (u.toks ++ rest) = u.toks ++ insertPlus true rest := Unary.toks_ind insertPlus_closed
theorem Prod.insertPlus_append : ∀ (p : Prod F) (rest : List (Tok F)),
    insertPlus false (p.toks ++ rest) = p.toks ++ insertPlus true rest := Prod.toks_ind insertPlus_closed

theorem Sum.insertPlus_toks (s : Sum F) : insertPlus false s.toks = s.toks := by
  simpa [insertPlus] using s.toks_ind insertPlus_closed []

theorem noAssign_closed : ToksClosed (F := F) fun l => l.any (·.isOpOf .assign) = false where
  lit v := rfl
  paren l ih := by simp only [List.any_cons, List.any_append, ih]; rfl
  sign o l ho ih := by rcases ho with rfl | rfl <;> simp only [List.any_cons, ih] <;> rfl
  bin o l r ho ihl ihr := by
    rcases ho with rfl | rfl | rfl | rfl <;> simp only [List.any_cons, List.any_append, ihl, ihr] <;> rfl

theorem Prim.not_assign : ∀ (p : Prim F) (t : Tok F), t ∈ p.toks → t.isOpOf .assign = false :=
  fun p t h => by simpa using List.any_eq_false.mp (p.toks_ind noAssign_closed) t h
theorem Unary.not_assign : ∀ (u : Unary F) (t : Tok F), t ∈ u.toks → t.isOpOf .assign = false :=
  fun u t h => by simpa using List.any_eq_false.mp (u.toks_ind noAssign_closed) t h
theorem Prod.not_assign : ∀ (p : Prod F) (t : Tok F), t ∈ p.toks → t.isOpOf .assign = false :=
  fun p t h => by simpa using List.any_eq_false.mp (p.toks_ind noAssign_closed) t h

theorem adderStart_noAssign {toks : List (Tok F)} (hna : toks.any (·.isOpOf .assign) = false) :
    adderStart toks = if toks.length ≤ 1 then none else some 0 := by
  have hf : toks.findIdx? (fun t => t.isOpOf .assign) = none :=
    List.findIdx?_eq_none_iff.mpr fun t ht => by simpa using List.any_eq_false.mp hna t ht
  cases toks with
  | nil => rfl
  | cons t rest => simp [adderStart, hf]

/-- `s p₁ p₂ …`, every `pᵢ` starting with a literal, is completed to the tokens of `s + p₁ + p₂ + …` -/
theorem addAll_toks (s : Sum F) (ps : List (Prod F)) (h : ∀ p ∈ ps, ∃ v r, p.toks = litTok v :: r) :
    (ps.foldl .add s).toks = s.toks ++ insertPlus true (ps.flatMap (·.toks)) := by
  induction ps generalizing s with
  | nil => simp [insertPlus]
  | cons p ps ih =>
    obtain ⟨v, r, hp⟩ := h p (by simp)
    rw [List.foldl_cons, ih _ (fun q hq => h q (by simp [hq])), List.flatMap_cons, hp, List.cons_append,
      insertPlus_true_lit, ← List.cons_append, ← hp, Prod.insertPlus_append]
    simp [Sum.toks]

end

/-- on a line without `=` and without a sign at its start, `missing_token_adder` is `insertPlus` from the first token -/
theorem missingTokenAdder_eq (toks : List (Tok F)) (hna : toks.any (·.isOpOf .assign) = false)
    (h : ∀ i t, adderStart toks = some i → toks[i]? = some t → (t.isOpOf .plus || t.isOpOf .minus) = false) :
    missingTokenAdder toks = insertPlus false toks := by
  have hs := adderStart_noAssign hna
  unfold missingTokenAdder
  rw [hs]
  cases toks with
  | nil => rfl
  | cons t rest =>
    cases rest with
    | nil => simp [insertPlus]
    | cons t' rest =>
      rw [if_neg (by simp)] at hs ⊢
      simp only [List.take_zero, List.drop_zero, List.nil_append, h 0 t hs rfl, Bool.false_eq_true, if_false]

theorem addAll_value (s : Sum F) (ps : List (Prod F)) :
    (ps.foldl .add s).value = ps.foldl (fun a p => Num.add a p.value) s.value := by
  induction ps generalizing s with
  | nil => rfl
  | cons p ps ih => exact ih _

/-- operands side by side are added: products that each start with a literal, written one after the other, are completed
    by `missing_token_adder` to the tokens of their sum -/
theorem adjacent_operands (p : Prod F) (ps : List (Prod F)) (h : ∀ q ∈ p :: ps, ∃ v r, q.toks = litTok v :: r) :
    missingTokenAdder ((p :: ps).flatMap (·.toks)) = (ps.foldl Sum.add (.one p)).toks := by
  have hna : ((p :: ps).flatMap (·.toks)).any (·.isOpOf .assign) = false := by
    rw [List.any_flatMap]
    exact List.any_eq_false.mpr fun q _ => by simp [q.toks_ind noAssign_closed]
  obtain ⟨v, r, hp⟩ := h p (by simp)
  rw [missingTokenAdder_eq _ hna, addAll_toks _ ps fun q hq => h q (by simp [hq]), List.flatMap_cons,
    Prod.insertPlus_append]
  · rfl
  · intro i t hs ht                         -- the token at the start position is the literal `p` begins with
    rw [adderStart_noAssign hna] at hs
    split at hs <;> cases hs
    rw [List.flatMap_cons, hp] at ht
    cases ht
    rfl

end SC.Spec
