/-
  SCP.Lemmas.C12 — the walk of `calculate_unit` along a contiguous index chain computes a
  quotient of weights, for every code executor that multiplies by the factor its code denotes.
-/
import SC.Units
import SCP.Lemmas.C13
namespace SCP.Lemmas.C12
open SC
open SCP.Lemmas.C13 (div_self div_mul_div_cancel)

abbrev UI := UnitItem Rat

/-- the indices of the items are `lo, lo+1, …` (what `BTreeMap<usize, _>` holds for a family
    whose indices are contiguous) -/
def Chain : List UI → Nat → Prop
  | [], _ => True
  | it :: rest, lo => it.index = lo ∧ Chain rest (lo + 1)

theorem chain_index (items : List UI) (lo : Nat) (h : Chain items lo) (k : Nat) (hk : k < items.length) :
    items[k].index = lo + k := by
  induction items generalizing lo k with
  | nil => cases hk
  | cons x rest ih =>
    cases k with
    | zero => exact h.1
    | succ k => rw [List.getElem_cons_succ, ih (lo + 1) h.2 k (Nat.lt_of_succ_lt_succ hk)]; omega

/-- the items in front of position `k` have smaller indices -/
theorem findItem_at (items : List UI) (lo : Nat) (h : Chain items lo) (k : Nat) (hk : k < items.length) :
    findItem? items (lo + k) = some items[k] :=
  List.find?_eq_some_iff_getElem.mpr ⟨decide_eq_true (chain_index items lo h k hk), k, hk, rfl, fun j hj => by
    rw [chain_index items lo h j (by omega)]; simp; omega⟩

/-- weight of the item at position `p`: how many units of position 0 one unit of position `p`
    is, according to the down codes -/
def weight (m : String → Rat) (items : List UI) : Nat → Rat
  | 0 => 1
  | p + 1 => weight m items p * (match items[p + 1]? with | some it => m it.down | none => 1)

def InversePairs (m : String → Rat) (items : List UI) : Prop :=
  ∀ p a b, items[p]? = some a → items[p + 1]? = some b → m a.up * m b.down = 1

def ExecIsMult (ex : String → Rat → Option Rat) (m : String → Rat) (items : List UI) : Prop :=
  ∀ it ∈ items, ∀ v, ex it.up v = some (v * m it.up) ∧ ex it.down v = some (v * m it.down)

theorem weight_succ (m : String → Rat) (items : List UI) (p : Nat) (b : UI) (hb : items[p + 1]? = some b) :
    weight m items (p + 1) = weight m items p * m b.down := by
  simp [weight, hb]

theorem weight_ne_zero (m : String → Rat) (items : List UI) (hinv : InversePairs m items) (p : Nat)
    (hp : p < items.length) : weight m items p ≠ 0 := by
  induction p with
  | zero => simp [weight]
  | succ p ih =>
    have hp' := Nat.lt_of_succ_lt hp
    rw [weight_succ m items p _ (List.getElem?_eq_getElem hp)]
    -- a factor `m (down (p + 1))` that is zero would make `m (up p) * m (down (p + 1)) = 1` false
    refine fun h0 => (Rat.mul_eq_zero.mp h0).elim (ih hp') fun hd => ?_
    simpa [hd] using hinv p _ _ (List.getElem?_eq_getElem hp') (List.getElem?_eq_getElem hp)

/-- `a` is the position the walk stands at, `b` the neighbour it moves to -/
theorem step_factor (ex : String → Rat → Option Rat) (m : String → Rat) (items : List UI) (hex : ExecIsMult ex m items)
    (hinv : InversePairs m items) (up : Bool) (a b : Nat)
    (ha : a < items.length) (hb : b < items.length) (hab : if up then b = a + 1 else a = b + 1) (v : Rat) :
    ex (if up then items[a].up else items[a].down) v = some (v * (weight m items a / weight m items b)) := by
  have hcur := List.getElem?_eq_getElem ha
  have hnext := List.getElem?_eq_getElem hb
  -- the code `c` that is executed has `weight a = weight b * m c`, so `m c = weight a / weight b`
  have hw : weight m items a = weight m items b * m (if up then items[a].up else items[a].down) := by
    cases up <;> simp only [↓reduceIte, Bool.false_eq_true] at hab ⊢ <;> subst hab
    · exact weight_succ m items b _ hcur           -- down, `a = b + 1`: the definition of `weight`
    · -- up, `b = a + 1`: `weight b = weight a * m (down b)`, and `m (up a) * m (down b) = 1`
      rw [weight_succ m items a _ hnext, Rat.mul_assoc, Rat.mul_comm (m _), hinv a _ _ hcur hnext, Rat.mul_one]
  rw [hw, Rat.mul_comm (weight m items b), Rat.mul_div_cancel (weight_ne_zero m items hinv b hb)]
  cases up
  · exact (hex _ (List.getElem_mem ha) v).2      -- down
  · exact (hex _ (List.getElem_mem ha) v).1      -- up

/-- the walk from position `a` to position `q`, in the form in which both `calculate_unit` and a round of its loop start it:
    the neighbour on the side of `q` is looked up next (going down, only from an index above 0); the fuel is at least the
    distance -/
theorem loop_walk (ex : String → Rat → Option Rat) (m : String → Rat) (items : List UI) (lo : Nat)
    (hch : Chain items lo) (hex : ExecIsMult ex m items) (hinv : InversePairs m items) (up : Bool) (q : Nat) (hq : q < items.length) :
    ∀ (fuel a : Nat) (v : Rat) (ha : a < items.length), (if up then a < q else q < a) → q ≤ a + fuel ∧ a ≤ q + fuel →
      (if up then calculateUnitWith.loop ex items (lo + q) up fuel v items[a] (lo + a + 1)
        else if lo + a = 0 then none else calculateUnitWith.loop ex items (lo + q) up fuel v items[a] (lo + a - 1)) =
      some (v * (weight m items a / weight m items q)) := by
  intro fuel
  induction fuel with
  | zero => intro a v _ hd hf; cases up <;> simp only [↓reduceIte, Bool.false_eq_true] at hd <;> omega
  | succ fuel ih =>
    intro a v ha hd hf
    -- one round takes the walk to the neighbour `b`; if that is not `q` it goes on from there, and the weights telescope
    have round (b : Nat) (hb : b < items.length) (hab : if up then b = a + 1 else a = b + 1)
        (hd' : b ≠ q → if up then b < q else q < b) (hf' : q ≤ b + fuel ∧ b ≤ q + fuel) :
        calculateUnitWith.loop ex items (lo + q) up (fuel + 1) v items[a] (lo + b) =
          some (v * (weight m items a / weight m items q)) := by
      rw [calculateUnitWith.loop, step_factor ex m items hex hinv up a b ha hb hab]
      simp only [findItem_at items lo hch b hb, chain_index items lo hch b hb]
      by_cases hbq : b = q
      · subst hbq; rw [if_pos rfl]
      · rw [if_neg fun h => hbq (Nat.add_left_cancel h), ih b _ hb (hd' hbq) hf', Rat.mul_assoc,
          div_mul_div_cancel _ _ (weight_ne_zero m items hinv b hb)]
    cases up <;> simp only [↓reduceIte, Bool.false_eq_true] at hd ⊢
    · -- down: `a = b + 1`, and `lo + (b + 1) - 1` is `lo + b`
      obtain ⟨b, rfl⟩ : ∃ b, a = b + 1 := ⟨a - 1, by omega⟩
      rw [if_neg (by omega)]
      exact round b (by omega) rfl (fun _ => show q < b by omega) (by omega)
    · -- up
      exact round (a + 1) (by omega) rfl (fun _ => show a + 1 < q by omega) (by omega)

theorem calculateUnit_weights (ex : String → Rat → Option Rat) (m : String → Rat) (items : List UI) (lo : Nat)
    (hch : Chain items lo) (hex : ExecIsMult ex m items) (hinv : InversePairs m items)
    (p q : Nat) (hp : p < items.length) (hq : q < items.length) (v : Rat) :
    calculateUnitWith ex items v (lo + p) (lo + q) = some (v * (weight m items p / weight m items q)) := by
  unfold calculateUnitWith
  by_cases hpq : p = q
  · subst hpq
    rw [if_pos rfl, div_self (weight_ne_zero m items hinv p hp), Rat.mul_one]
  · rw [if_neg fun h => hpq (Nat.add_left_cancel h), findItem_at items lo hch p hp]
    refine loop_walk ex m items lo hch hex hinv _ q hq _ p v hp ?_ (by omega)
    -- the direction is up unless `lo + p > lo + q`
    by_cases h : lo + p > lo + q
    · rw [decide_eq_true h]; exact show q < p by omega
    · rw [decide_eq_false h]; exact show p < q by omega

end SCP.Lemmas.C12
