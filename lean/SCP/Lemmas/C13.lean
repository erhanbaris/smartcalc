/-
  SCP.Lemmas.C13 — exact arithmetic: the `Rat` instance of `Num` (guarded division, integer and half-integer values)
  and two field identities on `Rat` (used wherever a formula is proved over `Rat`: C02, C05, C06, C12, C12Exec, C13, C14).
-/
import SC.Eval
namespace SCP.Lemmas.C13
open SC

/-- `as i64` of an integer value is that integer (`truncInt` is the same function on `Rat`) -/
theorem toInt_intCast (n : Int) : Num.toInt ((n : Int) : Rat) = n := by
  -- `if ↑n < 0 then -⌊-↑n⌋ else ⌊↑n⌋`: both branches are `n`
  simp only [Num.toInt]
  rw [← Rat.intCast_neg, Rat.floor_intCast, Rat.floor_intCast, Int.neg_neg, ite_self]

theorem trunc_intCast (n : Int) : Num.trunc ((n : Int) : Rat) = ((n : Int) : Rat) := by
  simp only [Num.trunc]
  rw [← Rat.intCast_neg n, Rat.floor_intCast, Rat.floor_intCast, Rat.intCast_neg, Rat.neg_neg, ite_self]

theorem toInt_natCast (n : Nat) : Num.toInt (((n : Int) : Rat)) = (n : Int) := toInt_intCast n

theorem trunc_natCast (n : Nat) : Num.trunc (((n : Int) : Rat)) = ((n : Int) : Rat) := trunc_intCast n

theorem lt_zero_natCast (n : Nat) : Num.lt (((n : Int) : Rat)) (Num.ofInt 0) = false := by
  show decide ((((n : Int) : Rat)) < ((0 : Int) : Rat)) = false
  rw [decide_eq_false_iff_not, Rat.intCast_lt_intCast]
  omega

theorem half_add_half (k : Int) :
    ((2 * k + 1 : Int) : Rat) / 2 + 1 / 2 = ((k + 1 : Int) : Rat) ∧
      -(((2 * k + 1 : Int) : Rat) / 2) + 1 / 2 = ((-k : Int) : Rat) := by
  rw [Rat.intCast_add, Rat.intCast_add, Rat.intCast_neg, Rat.intCast_mul]
  constructor <;> grind

theorem half_int_neg_iff (k : Int) : ((2 * k + 1 : Int) : Rat) / 2 < 0 ↔ k < 0 := by
  have h2 : (0 : Rat) < 2 := by decide
  rw [Rat.div_lt_iff h2, Rat.zero_mul, ← Rat.intCast_zero, Rat.intCast_lt_intCast]
  omega

/-- `Rat` has no bad values, and `x / 0 = 0` -/
theorem gdiv_rat (a b : Rat) : gdiv a b = a / b := by
  simp [gdiv, Num.isBad, Num.div]

/-- `PercentItem::get_number` -/
theorem percentOf_rat (x p : Rat) : percentOf x p = x * p / 100 := by
  show x / ((100 : Int) : Rat) * p = x * p / 100
  grind

theorem div_self {a : Rat} (h : a ≠ 0) : a / a = 1 := Rat.mul_inv_cancel a h

theorem div_mul_div_cancel (a c : Rat) {b : Rat} (hb : b ≠ 0) : a / b * (b / c) = a / c := by grind

end SCP.Lemmas.C13
