/-
  SCP.Lemmas.Fuel — the argument behind "the model's fuel is never exhausted" for the rule loop, the unit-literal loop and
  the variable loop: a fuelled loop whose every round either lowers a measure or returns a result that does not depend on
  the fuel is stable under more fuel once the fuel exceeds the measure.  (`RegexFuel.addThreads_stable` needs an invariant
  of the state beside the measure, `C12Exec.codeLex_mono` is about the `some`-results of a loop that is not tail recursive:
  both are proved directly.)
-/
namespace SCP.Lemmas

/- `hstep`: a round either goes on with a smaller `y` on one unit of fuel less, or returns without recursing — then its result
   is the same whatever fuel is left, which is what the second disjunct says with its two fuels `m`, `m'`. -/
theorem fuel_stable {α β : Type} (loop : Nat → α → β) (μ : α → Nat)
    (hstep : ∀ x, (∃ y, μ y < μ x ∧ ∀ m, loop (m + 1) x = loop m y) ∨ ∀ m m', loop (m + 1) x = loop (m' + 1) x) :
    ∀ (fuel : Nat) (x : α) (k : Nat), μ x < fuel → loop (fuel + k) x = loop fuel x := by
  intro fuel
  induction fuel with
  | zero => intro x k h; omega
  | succ n ih =>
    intro x k h
    rw [show n + 1 + k = (n + k) + 1 by omega]
    obtain ⟨y, hy, e⟩ | e := hstep x
    · rw [e, e]; exact ih y k (by omega)
    · exact e _ _

end SCP.Lemmas
