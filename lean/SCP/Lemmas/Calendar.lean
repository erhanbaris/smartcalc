/-
  SCP.Lemmas.Calendar — integer arithmetic behind H. Hinnant's `days_from_civil` / `civil_from_days`
  (`SC.dayNumber` / `SC.civilFromDays`, module SC.Chrono).  Both count from 1 March: the year `y` begins on 1 March (so
  that the leap day is its last day), the month `mp` is 0 for March … 11 for February; `marchDays y` days lie between
  1 March of year 0 and 1 March of year `y`, `(153 mp + 2) / 5` between 1 March and the first of month `mp`.  A day
  belongs to the year, and a day of the year to the month, that begins no later and whose successor begins later: this is
  what is proved of the year and the month that `civilFromDays` computes (`civil_year`, `civil_month`) and what the
  validity of a civil date comes to (`daysInMonth_eq`).
  Each step is linear integer arithmetic with floor divisions by literals, left to `lia`, which is two to three times
  cheaper on such goals than `omega`; `omega` stands where `lia` does not find the proof (the year formula in
  `civil_year`, a quotient whose dividend contains quotients of the same number).  Both pay, in elaboration and again in
  the kernel, for every integer hypothesis in scope whether they use it or not, most for one that contains a floor
  division or a disjunction; hence the `clear`s.
-/
import SC.Chrono
namespace SCP.Calendar
open SC

def marchDays (y : Int) : Int := 365 * y + y / 4 - y / 100 + y / 400

theorem dayNumber_eq (Y : Int) (m d : Nat) (y mp : Int)
    (hy : y = if m ≤ 2 then Y - 1 else Y) (hmp : mp = ((m : Int) + 9) % 12) :
    dayNumber ⟨Y, m, d⟩ = marchDays y + (153 * mp + 2) / 5 + (d : Int) - 1 - 719468 := by
  subst hy hmp
  simp only [dayNumber, marchDays]
  lia

/-- 400 years are 146097 days -/
theorem marchDays_add_era (y e : Int) : marchDays (y + 400 * e) = marchDays y + 146097 * e := by
  unfold marchDays; lia

theorem isLeap_iff (y : Int) : isLeap y = true ↔ (y % 4 = 0 ∧ y % 100 ≠ 0) ∨ y % 400 = 0 := by
  simp [isLeap]

theorem marchDays_step (y : Int) :
    marchDays (y + 1) = marchDays y + (if isLeap (y + 1) then 366 else 365) := by
  unfold marchDays isLeap; lia

theorem marchDays_step_bounds (y : Int) :
    marchDays y + 365 ≤ marchDays (y + 1) ∧ marchDays (y + 1) ≤ marchDays y + 366 := by
  rw [marchDays_step]; split <;> lia

theorem marchDays_mono (a b : Int) (h : a ≤ b) : marchDays a ≤ marchDays b := by
  unfold marchDays; lia

/-- every day of an era but the last: century `c`, 4-year block `q` of the century, day `r` of the block -/
theorem doe_blocks (doe : Int) (h0 : 0 ≤ doe) (h1 : doe < 146096) : ∃ c q r : Int, doe = 36524 * c + 1461 * q + r ∧
    0 ≤ c ∧ c ≤ 3 ∧ 0 ≤ q ∧ q ≤ 24 ∧ 0 ≤ r ∧ r ≤ 1460 ∧ (q = 24 → r ≤ 1459) := by
  refine ⟨doe / 36524, doe % 36524 / 1461, doe % 36524 % 1461, ?_⟩
  lia

/-- day `doe` of the era is day `doy` of the year `yoe` -/
theorem civil_year (doe yoe doy : Int) (h0 : 0 ≤ doe) (h1 : doe ≤ 146096)
    (hyoe : yoe = (doe - doe / 1460 + doe / 36524 - doe / 146096) / 365)
    (hdoy : doy = doe - (365 * yoe + yoe / 4 - yoe / 100)) :
    doe = marchDays yoe + doy ∧ 0 ≤ doy ∧ doy ≤ 365 ∧ marchDays yoe + doy < marchDays (yoe + 1) := by
  by_cases hlast : doe = 146096
  · subst hlast hyoe hdoy; decide
  · have h1' : doe < 146096 := by clear hyoe hdoy; lia
    obtain ⟨c, q, r, hdoe, hc0, hc3, hq0, hq, hr0, hr, hl⟩ := doe_blocks doe h0 h1'
    -- the three correction terms make the quotient by 365 exact
    have hy : yoe = 100 * c + 4 * q + (r - r / 1460) / 365 := by
      have h2 : doe / 36524 = c := by clear h0 h1 h1' hyoe hdoy; lia
      rw [hyoe, h2, Int.ediv_eq_zero_of_lt h0 h1', Int.sub_zero]
      clear h0 h1 h1' h2 hl hlast hyoe hdoy
      -- `doe / 1460` is `25 c + q` or one more; omega finds that by itself, but only with the quotient named in a
      -- hypothesis (with the term left in the goal its elimination order gets stuck)
      generalize ha : doe / 1460 = a
      omega
    clear hyoe h0 h1 h1' hlast
    -- year `yq` of the block; the block's last day, if it has one, is the leap day of its last year
    generalize hl' : r / 1460 = l at hy
    generalize hyq : (r - l) / 365 = yq at hy
    obtain ⟨hyq0, hyq3, hdy0, hdy⟩ :
        0 ≤ yq ∧ yq ≤ 3 ∧ 365 * yq ≤ r ∧ (r - 365 * yq ≤ 364 ∨ (r = 1460 ∧ yq = 3)) := by
      clear hdoe hdoy hy hc0 hc3 hq0 hq hl; lia
    clear hyq hl' hr0 hr
    obtain ⟨h4, h100, h400⟩ : yoe / 4 = 25 * c + q ∧ yoe / 100 = c ∧ yoe / 400 = 0 := by
      clear hdoe hdoy hl hdy0 hdy; lia
    rw [h4, h100] at hdoy
    rw [marchDays_step]
    unfold marchDays
    rw [h4, h100, h400]
    clear h4 h100 h400
    subst hdoy hdoe hy
    refine ⟨by lia, by lia, by clear hl; lia, ?_⟩
    rcases hdy with h | ⟨rfl, rfl⟩
    · split <;> lia
    · -- the fourth year of a block that does not end its century is a leap year
      rw [if_pos ((isLeap_iff _).2 (.inl ⟨by lia, by lia⟩))]
      lia

theorem civil_month (doy mp : Int) (h0 : 0 ≤ doy) (h1 : doy ≤ 365) (hmp : mp = (5 * doy + 2) / 153) :
    0 ≤ mp ∧ mp ≤ 11 ∧ (153 * mp + 2) / 5 ≤ doy ∧ doy < (153 * (mp + 1) + 2) / 5 := by
  lia

/-- outside February the month lengths are the steps of `(153 mp + 2) / 5`, and these stay within the shortest year
    (a table of eleven months) -/
theorem dim_table : ∀ m : Nat, m < 13 → 1 ≤ m → m ≠ 2 →
    (daysInMonth 0 m : Int) = (153 * (((m : Int) + 9) % 12 + 1) + 2) / 5 - (153 * (((m : Int) + 9) % 12) + 2) / 5 ∧
      (153 * (((m : Int) + 9) % 12 + 1) + 2) / 5 ≤ 365 := by
  decide

/-- a month ends where the next begins, or (February) where the year ends -/
theorem daysInMonth_eq (Y : Int) (m : Nat) (y mp : Int) (hm1 : 1 ≤ m) (hm12 : m ≤ 12)
    (hy : y = if m ≤ 2 then Y - 1 else Y) (hmp : mp = ((m : Int) + 9) % 12) :
    (daysInMonth Y m : Int) =
      min ((153 * (mp + 1) + 2) / 5) (marchDays (y + 1) - marchDays y) - (153 * mp + 2) / 5 := by
  by_cases h2 : m = 2
  · -- February ends with the shifted year `Y - 1`
    subst h2 hy hmp
    have hs := marchDays_step (Y - 1)
    unfold daysInMonth
    lia
  · obtain ⟨hdim, h365⟩ := dim_table m (by lia) hm1 h2
    have hs := marchDays_step_bounds y
    subst hmp
    rw [Int.min_eq_left (by lia), ← hdim]
    simp only [daysInMonth, if_neg h2]

end SCP.Calendar
