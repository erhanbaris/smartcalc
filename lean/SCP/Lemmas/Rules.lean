/-
  SCP.Lemmas.Rules — the simp set `rules`: the rule functions and field readers of SC.Rules, the
  interpreter's `execAst` and `calcItem`, and the binding of fields by a match.  A rule function applied to a field
  list that is written out is evaluated by `simp [rules]`; over `Rat` down to a field expression: the operations of
  the `Num` instance become `+ - *`, the guarded division `/`, a percentage `x * p / 100`.  A module that writes its
  tokens with constructors of its own (`SCP.C05.ti`, `num`, …) adds them to the set.
-/
import SC.Rules
import SC.Eval
import SCP.Lemmas.RulesAttr
import SCP.Lemmas.Match
import SCP.Lemmas.C13
open SC

attribute [rules] applyRule ruleNumberPct Fields.get? assoc? fieldItem getNumber getPercent getMoney getDuration
  getTime getDate getDateTime getDyn getText getTimezone getMonth getCurrency getNumberOrPrice getNumberOrTimeSod
  calcItem applyOp execAst fieldNameOf Field.name Fields.insert SCP.Match.bound
  SCP.Lemmas.C13.gdiv_rat SCP.Lemmas.C13.percentOf_rat hundredF Num.add Num.sub Num.mul Num.ofInt
