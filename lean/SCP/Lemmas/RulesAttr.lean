import Lean.Meta.Tactic.Simp.RegisterCommand
/-- the unfolding set described and filled in SCP/Lemmas/Rules.lean (an attribute cannot be used in the file that declares it) -/
register_simp_attr rules
