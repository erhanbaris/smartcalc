/-
  SCP.Lemmas.Termination — a completed `find_match` covers at least `pattern length` active typed
  tokens (`findMatch_count`), and replacing its range by one token takes exactly the active typed tokens
  of the range out of the measure and adds one (`replaceRange_mu`); SCP.Termination concludes that a
  pattern of two tokens lowers it.
-/
import SC.Engine
namespace SCP.Lemmas.Termination
open SC
variable {F : Type} [Num F]
set_option linter.unusedSectionVars false

/-- an info that pattern matching can see: Active and typed -/
def live (ti : TokInfo F) : Bool := ti.active && ti.tok.isSome

/-- number of live infos at absolute positions `[s, e)`; `k` is the position of the head -/
def cnt (s e : Nat) : Nat → List (TokInfo F) → Nat
  | _, [] => 0
  | k, ti :: l => (if s ≤ k ∧ k < e ∧ live ti = true then 1 else 0) + cnt s e (k + 1) l

def mu (l : List (TokInfo F)) : Nat := cnt 0 l.length 0 l

theorem cnt_eq (s e k : Nat) (l : List (TokInfo F)) : cnt s e k l = ((l.take (e - k)).drop (s - k)).countP live := by
  induction l generalizing k with
  | nil => simp [cnt]
  | cons x xs ih =>
    -- the tests on `k`, and the bounds for `k + 1`, in terms of `e - k` and `s - k`
    have hs : s ≤ k ↔ s - k = 0 := Nat.sub_eq_zero_iff_le.symm
    have he : k < e ↔ 0 < e - k := Nat.sub_pos_iff_lt.symm
    simp only [cnt, ih, Nat.sub_add_eq, hs, he]
    cases e - k with
    | zero => simp                                             -- behind the range: nothing is taken
    | succ e' =>
      cases s - k with
      | zero => rw [Nat.add_comm]; simp [List.countP_cons]     -- in the range: the head is taken and not dropped
      | succ s' => exact Nat.zero_add _                        -- before the range: the head is dropped

theorem mu_eq (l : List (TokInfo F)) : mu l = l.countP live := by simp [mu, cnt_eq]

theorem cnt_le_mono (s e e' k : Nat) (l : List (TokInfo F)) (h : e ≤ e') : cnt s e k l ≤ cnt s e' k l := by
  rw [cnt_eq, cnt_eq]
  exact (((List.take_prefix_take_left (Nat.sub_le_sub_right h k)).sublist).drop _).countP_le

theorem cnt_below (s e k : Nat) (l : List (TokInfo F)) (h : k + l.length ≤ s) : cnt s e k l = 0 := by
  rw [cnt_eq, List.drop_eq_nil_of_le (by rw [List.length_take]; omega)]; rfl

def Covers (l : List (TokInfo F)) (m : Match F) (n : Nat) : Prop :=
  ∃ front seg back, l = front ++ seg ++ back ∧ m.start = front.length ∧ m.stop = front.length + seg.length ∧
    n ≤ seg.countP live

/-- one token of the scan while the pattern is incomplete: the token is live and completes the match; or the scan goes on
    behind it, one more position matched only if the token is live; or it starts afresh behind the token -/
theorem go_cons {vs : Vars F} {pat rest : List (TokInfo F)} {tok : TokInfo F} {target i start : Nat} {fs : Fields F} {m : Match F}
    (hlt : i < pat.length) (hm : findMatch.go vs pat pat.length (tok :: rest) target i start fs = m) :
    (live tok = true ∧ pat.length = i + 1 ∧ m.start = start ∧ m.stop = target + 1) ∨
    (∃ i' fs', i' < pat.length ∧ i' ≤ i + (if live tok = true then 1 else 0) ∧
      findMatch.go vs pat pat.length rest (target + 1) i' start fs' = m) ∨
    findMatch.go vs pat pat.length rest (target + 1) 0 (target + 1) fs = m := by
  rw [findMatch.go] at hm
  by_cases hact : (!tok.active) = true
  · rw [if_pos hact] at hm
    exact .inr (.inl ⟨i, fs, hlt, Nat.le_add_right .., hm⟩)            -- Removed token: skipped
  -- as `i < length`, the pattern is not complete before the token, has a position `i`, and is not empty
  simp only [if_neg hact, if_neg (Nat.ne_of_gt hlt), List.getElem?_eq_getElem hlt, if_neg (Nat.ne_zero_of_lt hlt)] at hm
  split at hm
  · exact .inr (.inl ⟨i, fs, hlt, Nat.le_add_right .., hm⟩)            -- untyped token: skipped
  · rename_i t ht
    have hlive : live tok = true := by simpa [live, ht] using hact
    split at hm
    · split at hm                                                     -- the token is accepted:
      · subst hm; exact .inl ⟨hlive, ‹_›, rfl, rfl⟩                    --   at the last position: the match
      · exact .inr (.inl ⟨i + 1, _, by omega, by simp [hlive], hm⟩)     --   before it: one more position matched
    · exact .inr (.inr hm)                                            -- it is rejected: a new attempt behind it

/-- the scan of `find_match`, with `front ++ seg` consumed, the current attempt begun behind `front` and `i`
    pattern positions matched by live infos of `seg`: a completed match (pattern of at least one token) covers at
    least `pattern length` live infos -/
theorem go_count (vs : Vars F) (pat rest : List (TokInfo F)) :
    ∀ (front seg : List (TokInfo F)) (i : Nat) (fs : Fields F) (m : Match F),
      i < pat.length → i ≤ seg.countP live →
      findMatch.go vs pat pat.length rest (front.length + seg.length) i front.length fs = m → m.found = true →
      Covers (front ++ seg ++ rest) m pat.length := by
  induction rest with
  | nil =>   -- the line ends with the pattern incomplete: the result is no match
    intro front seg i fs m hlt _ hm hf
    simp only [findMatch.go] at hm
    subst hm
    simp only [decide_eq_true_eq] at hf
    omega
  | cons tok rest ih =>
    intro front seg i fs m hlt hcnt hm hf
    have hcp : (seg ++ [tok]).countP live = seg.countP live + if live tok = true then 1 else 0 := by
      rw [List.countP_append, List.countP_singleton]
    obtain ⟨hl, hp, hs, he⟩ | ⟨i', fs', hlt', hi', hm'⟩ | hm' := go_cons hlt hm
    · -- `tok` completes the match: its range is the segment with `tok` …
      exact ⟨front, seg ++ [tok], rest, by simp, hs, by simp [he, Nat.add_assoc], by rw [hcp, if_pos hl]; omega⟩
    · -- … or the scan goes on with `tok` added to the segment …
      have := ih front (seg ++ [tok]) i' fs' m hlt' (by omega) (by simpa [Nat.add_assoc] using hm') hf
      simpa using this
    · -- … or starts afresh behind `tok`
      have := ih (front ++ seg ++ [tok]) [] 0 fs m (by omega) (Nat.zero_le _) (by simpa [Nat.add_assoc] using hm') hf
      simpa using this

theorem findMatch_count (vs : Vars F) (pat infos : List (TokInfo F)) (hp : 1 ≤ pat.length)
    (hf : (findMatch vs pat infos).found = true) :
    (findMatch vs pat infos).start ≤ (findMatch vs pat infos).stop ∧ (findMatch vs pat infos).stop ≤ infos.length ∧
      pat.length ≤ cnt (findMatch vs pat infos).start (findMatch vs pat infos).stop 0 infos := by
  obtain ⟨front, seg, back, hl, hs, he, hc⟩ := go_count vs pat infos [] [] 0 [] (findMatch vs pat infos) (by omega) (Nat.zero_le _) rfl hf
  simp only [List.nil_append] at hl
  rw [hs, he, hl, cnt_eq]
  simp [List.take_append, hc]

/-- `k` is the position of the head -/
theorem countP_mark (s e k : Nat) (l : List (TokInfo F)) :
    (l.mapIdx fun i ti => if decide (s ≤ i + k) && decide (i + k < e) then ({ ti with active := false } : TokInfo F) else ti).countP live
      + cnt s e k l = l.countP live := by
  induction l generalizing k with
  | nil => rfl
  | cons x xs ih =>
    have hk i : i + 1 + k = i + (k + 1) := Nat.add_right_comm i 1 k
    simp only [List.mapIdx_cons, hk, cnt, List.countP_cons, Nat.zero_add, ← ih (k + 1)]
    -- `(M + a) + (b + B) = (M + B) + d`, `M` and `B` the tails of the marked list and of `cnt`: left is `a + b = d`, the head
    rw [Nat.add_comm _ (cnt ..), Nat.add_add_add_comm]
    congr 1
    by_cases hin : s ≤ k ∧ k < e
    · -- inside the range it is marked, hence dead, and `cnt` counts it if it was live
      simp [hin, show live ({ x with active := false } : TokInfo F) = false from rfl]
    · simp [hin, ← and_assoc]      -- outside nothing happens to it, and `cnt` does not count it

theorem replaceRange_mu (infos : List (TokInfo F)) (m : Match F) (t : Tok F) :
    mu (replaceRange infos m t) + cnt m.start m.stop 0 infos = mu infos + 1 := by
  -- the new list is the marked one with the (live) token put in at `m.start`; `countP_mark` at position 0 says what the
  -- marking takes out of the count
  have hmark := countP_mark m.start m.stop 0 infos
  unfold replaceRange
  simp only [mu_eq, List.countP_append, ← hmark]
  generalize infos.mapIdx _ = marked
  have := congrArg (List.countP live) (List.take_append_drop m.start marked)
  rw [List.countP_append] at this
  simp [live, ← this]
  omega

end SCP.Lemmas.Termination
