/-
  SCP.C12Exec — the hypothesis of C12 on the model: `execute_code` multiplies by the factor of its code.

  `DynamicTypeItem::execute_code` substitutes the amount's text (`f64::to_string`) for `{value}` in the code text,
  translates '.' into the configured decimal separator and hands the text to `SmartCalc::basic_execute` — the regex
  tokenizer, the parser and the interpreter.  The theorems of SCP.C12 take the result of that step as a hypothesis
  (`ExecIsMult`).  Here it is derived on the model, per amount, by composing the string lemmas of SCP.Lex (`lex_render`:
  every spacing of literal / operator pieces lexes to the pieces' tokens) with `SCP.C02.parse_eval` (the parser and the
  interpreter give a tree's textbook value).  `basic_execute` runs with the text's length as fuel, the string lemmas with
  the exact number of steps: `codeLex_mono` (more fuel never changes a result) bridges the two, and `basicExecute_render`
  is C02 at string level through the real entry point, for ANY tree on ANY admissible spacing of its pieces.
  `gen_codes_ok` (kernel-decided on the regenerated table): every configured code is `{value}`, `{value} * K` or
  `{value} / K`, its constant is a literal, and the factor the TRANSLATOR computed for it (`Gen.codeFactors`, used by
  `SCP.C12.mult`) is the value the MODEL's reader gives the constant — the translator's reading of the codes is not
  trusted.  `gen_codes_multiply`: for every configured code and every exact amount whose printed text reads back as itself,
  `executeCode "." "" code v = some (v * mult code)`; `step_up`, `step_down`: one step of `calculate_unit` with the REAL
  executor.

  What stays a hypothesis: that the amount's printed text reads back as the amount (`f64::to_string` / `str::parse`
  round trip of the doubles — a guarantee of Rust's `core`, and false for exact rationals without a finite decimal
  text: `1/3`).  The driver evaluates it on every amount of every conversion of the C12 runs (evidence counter
  `amount-reads-back`; `readsBack_rat`, `litOK_of_text` give the hypothesis in the decidable form the driver evaluates).
-/
import SC.Units
import SC.ReadsBack
import SCP.Lex
import SCP.C08Code
import SCP.C12
import SCP.Lemmas.C13
namespace SCP.C12Exec
open SC SC.Spec SCP.Lex
variable {F : Type} [Num F]

theorem codeLex_mono (dec thou : String) : ∀ (f : Nat) (s : List Char) (ts : List (Tok F)),
    codeLex dec thou f s = some ts → ∀ k, codeLex dec thou (f + k) s = some ts := by
  intro f
  induction f with
  | zero => intro s ts h; cases h
  | succ f ih =>
    intro s ts h k
    rw [show f + 1 + k = (f + k) + 1 by omega]
    cases s with
    | nil => exact h
    | cons c rest =>
      rw [codeLex_cons] at h ⊢
      by_cases hsp : c = ' '
      · rw [if_pos hsp] at h ⊢; exact ih _ _ h k
      · rw [if_neg hsp] at h ⊢
        obtain ⟨p, hp, h⟩ := Option.bind_eq_some_iff.mp h
        obtain ⟨us, hus, rfl⟩ := Option.map_eq_some_iff.mp h
        simp [hp, ih _ _ hus k]

theorem strReplace_prefix (p : Char) (ps rep rest : List Char) (h : p ∉ rest) :
    strReplace ((p :: ps) ++ rest) (p :: ps) rep = rep ++ rest := by
  unfold strReplace
  simp only [List.isEmpty_cons, Bool.false_eq_true, if_false]
  have hpre : startsWith (p :: (ps ++ rest)) (p :: ps) = true := by
    simp [startsWith]
  simp only [List.cons_append, strReplace.go, hpre, if_true]
  have hdrop : (p :: (ps ++ rest)).drop (p :: ps).length = rest := by simp
  rw [hdrop, SCP.C08.strReplace_go_absent p ps rep _ rest h]

/-- the text of an amount as `execute_code` hands it to the tokenizer ('.' ↦ decimal separator) -/
def amountText (dec : String) (v : F) : List Char := strReplace (Num.short v).toList ['.'] dec.toList
def constText (dec : String) (k : List Char) : List Char := strReplace k ['.'] dec.toList

theorem placeholder : "{value}".toList = '{' :: ['v', 'a', 'l', 'u', 'e', '}'] := by decide

theorem executeCode_text (dec thou : String) (code : String) (tail : List Char) (v : F)
    (hcode : code.toList = "{value}".toList ++ tail) (hbr : '{' ∉ tail) :
    executeCode dec thou code v = basicExecute dec thou (amountText dec v ++ strReplace tail ['.'] dec.toList) := by
  unfold executeCode
  rw [hcode, placeholder, strReplace_prefix '{' _ _ _ hbr]
  exact congrArg (basicExecute dec thou) (SCP.C08.strReplace_append _ _ _ _)

theorem tail_text (dec : String) (o : Char) (ho : o ≠ '.') (ktxt : List Char) :
    strReplace (' ' :: o :: ' ' :: ktxt) ['.'] dec.toList = ' ' :: o :: ' ' :: constText dec ktxt := by
  simp [SCP.C08.strReplace_cons, ho, constText]

theorem fuelFor_le (dec thou : String) (ps : List (Nat × Piece F)) (t : Nat) (hok : ∀ gp ∈ ps, PieceOK dec thou gp.2) :
    fuelFor ps t ≤ (render ps t).length + 1 := by
  induction ps with
  | nil => simp [fuelFor, render]
  | cons gp rest ih =>
    obtain ⟨g, p⟩ := gp
    obtain ⟨c, r, hc, _⟩ := pieceOK_text (hok (g, p) (by simp))     -- the piece has a character for its step
    have := ih (fun x hx => hok x (by simp [hx]))
    simp only [fuelFor, render, hc, List.length_append, List.length_replicate, List.length_cons]
    omega

/-- `lex_render` with the fuel `basic_execute` and `lexLine` run with: the length of the text -/
theorem lex_render_len (dec thou : String) (ps : List (Nat × Piece F)) (t : Nat)
    (hok : ∀ gp ∈ ps, PieceOK dec thou gp.2) (hsep : Separated ps t) :
    (codeLex dec thou ((render ps t).length + 1) (render ps t) : Option (List (Tok F))) = some (ps.map (·.2.tok)) := by
  obtain ⟨k, hk⟩ := Nat.exists_eq_add_of_le (fuelFor_le dec thou ps t hok)
  rw [hk]
  exact codeLex_mono dec thou _ _ _ (lex_render dec thou ps t hok hsep) k

theorem basicExecute_tree (dec thou : String) (txt : List Char) (s : Sum F)
    (hlex : (codeLex dec thou (txt.length + 1) txt : Option (List (Tok F))) = some s.toks) (hne : s.toks ≠ []) :
    basicExecute dec thou txt = some s.value := by
  obtain ⟨ast, h1, h2⟩ := SCP.C02.parse_eval s ([] : List (String × F)) (fun _ _ _ => none) []
  unfold basicExecute
  rw [hlex]
  cases hts : s.toks with
  | nil => exact absurd hts hne
  | cons t ts =>
    -- with the token list known to be a cons the `match` of `basic_execute` takes its parser arm; then `parse_eval`
    simp only
    rw [← hts, h1]
    simp only
    rw [h2]

/-- C02 at string level through the real entry point: `basic_execute` — tokenizer with the text's length as fuel, parser,
    interpreter — on ANY spacing of the pieces of ANY expression tree returns the tree's textbook value -/
theorem basicExecute_render (dec thou : String) (s : Sum F) (ps : List (Nat × Piece F)) (t : Nat)
    (htoks : ps.map (·.2.tok) = s.toks) (hok : ∀ gp ∈ ps, PieceOK dec thou gp.2) (hsep : Separated ps t) (hne : s.toks ≠ []) :
    basicExecute dec thou (render ps t) = some s.value :=
  basicExecute_tree dec thou (render ps t) s (by rw [lex_render_len dec thou ps t hok hsep, htoks]) hne

/-- the same for whole lines with a trailing comment (`lexLine`): whatever follows the first '#' is irrelevant -/
theorem lexLine_render (dec thou : String) (ps : List (Nat × Piece F)) (t : Nat) (c : List Char)
    (hok : ∀ gp ∈ ps, PieceOK dec thou gp.2) (hsep : Separated ps t) (hno : '#' ∉ render ps t) :
    (lexLine dec thou (render ps t ++ '#' :: c) : Option (List (Tok F))) = some (ps.map (·.2.tok)) := by
  rw [lexLine_append dec thou hno rfl]
  exact lex_render_len dec thou ps t hok hsep

/-- non-vacuity: a line with uneven gaps, a parenthesis and a sign glued to a literal -/
example : basicExecute "," "." "12 *( 3,5+-4)".toList = some (-6 : Rat) := by decide +kernel

theorem binary_pieces (dec thou : String) (A K : List Char) (a k : F) (o : Char) (hA : LitOK dec thou A a)
    (hK : LitOK dec thou K k) (ho : o = '*' ∨ o = '/') :
    render [(0, Piece.lit A a), (1, .op o), (1, .lit K k)] 0 = A ++ ' ' :: o :: ' ' :: K ∧
      (∀ gp ∈ [(0, Piece.lit A a), (1, .op o), (1, .lit K k)], PieceOK dec thou gp.2) ∧
      Separated [(0, Piece.lit A a), (1, .op o), (1, .lit K k)] 0 := by
  refine ⟨by simp [render, Piece.text, List.replicate], ?_, ?_, ?_, ?_, trivial⟩
  · intro gp hgp                                  -- the three pieces are well formed
    simp only [List.mem_cons, List.not_mem_nil, or_false] at hgp
    rcases hgp with rfl | rfl | rfl
    · exact hA
    · rcases ho with rfl | rfl <;> rfl
    · exact hK
  · intro c hc                                    -- `A` is followed by a blank
    cases Option.some.inj hc
    decide
  · intro hs                                      -- `o` is no sign
    rcases ho with rfl | rfl <;> cases hs
  · intro c hc                                    -- `K` is followed by nothing
    cases hc

theorem basicExecute_mul (dec thou : String) (A K : List Char) (a k : F) (hA : LitOK dec thou A a) (hK : LitOK dec thou K k) :
    basicExecute dec thou (A ++ ' ' :: '*' :: ' ' :: K) = some (Num.mul a k) := by
  obtain ⟨hr, hok, hsep⟩ := binary_pieces dec thou A K a k '*' hA hK (.inl rfl)
  rw [← hr]
  exact basicExecute_render dec thou (.one (.mul (.one (.prim (.lit a))) (.prim (.lit k)))) _ 0 rfl hok hsep (List.cons_ne_nil _ _)

theorem basicExecute_div (dec thou : String) (A K : List Char) (a k : F) (hA : LitOK dec thou A a) (hK : LitOK dec thou K k) :
    basicExecute dec thou (A ++ ' ' :: '/' :: ' ' :: K) = some (gdiv a k) := by
  obtain ⟨hr, hok, hsep⟩ := binary_pieces dec thou A K a k '/' hA hK (.inr rfl)
  rw [← hr]
  exact basicExecute_render dec thou (.one (.div (.one (.prim (.lit a))) (.prim (.lit k)))) _ 0 rfl hok hsep (List.cons_ne_nil _ _)

theorem basicExecute_lit (dec thou : String) (A : List Char) (a : F) (hA : LitOK dec thou A a) :
    basicExecute dec thou A = some a := by
  have := basicExecute_render dec thou (.one (.one (.prim (.lit a)))) [(0, .lit A a)] 0 rfl
    (fun gp hgp => by cases List.mem_singleton.mp hgp; exact hA) ⟨fun c hc => (by cases hc), trivial⟩ (List.cons_ne_nil _ _)
  rwa [show render [(0, Piece.lit A a)] 0 = A by simp [render, Piece.text]] at this

theorem executeCode_mul (dec thou : String) (code : String) (ktxt : List Char) (k v : F)
    (hcode : code.toList = "{value}".toList ++ ' ' :: '*' :: ' ' :: ktxt) (hbr : '{' ∉ ktxt)
    (hK : LitOK dec thou (constText dec ktxt) k) (hV : LitOK dec thou (amountText dec v) v) :
    executeCode dec thou code v = some (Num.mul v k) := by
  rw [executeCode_text dec thou code _ v hcode (by simp [hbr]), tail_text dec '*' (by decide)]
  exact basicExecute_mul dec thou _ _ v k hV hK

theorem executeCode_div (dec thou : String) (code : String) (ktxt : List Char) (k v : F)
    (hcode : code.toList = "{value}".toList ++ ' ' :: '/' :: ' ' :: ktxt) (hbr : '{' ∉ ktxt)
    (hK : LitOK dec thou (constText dec ktxt) k) (hV : LitOK dec thou (amountText dec v) v) :
    executeCode dec thou code v = some (gdiv v k) := by
  rw [executeCode_text dec thou code _ v hcode (by simp [hbr]), tail_text dec '/' (by decide)]
  exact basicExecute_div dec thou _ _ v k hV hK

theorem executeCode_id (dec thou : String) (code : String) (v : F)
    (hcode : code.toList = "{value}".toList) (hV : LitOK dec thou (amountText dec v) v) :
    executeCode dec thou code v = some v := by
  rw [executeCode_text dec thou code [] v (by rw [hcode, List.append_nil]) (by simp)]
  exact basicExecute_lit dec thou _ v (by simpa [SCP.C08.strReplace_single] using hV)

def litShapeB : List Char → Bool
  | d :: more => isDigit d && more.all isNumBody
  | [] => false

theorem litOK_of_shape (dec thou : String) (txt : List Char) (v : F) (h : litShapeB txt = true)
    (hr : readLiteral dec thou txt = some v) : LitOK dec thou txt v := by
  cases txt with
  | nil => simp [litShapeB] at h
  | cons d more =>
    simp only [litShapeB, Bool.and_eq_true, List.all_eq_true] at h
    exact ⟨[], d, more, by simp, Or.inl rfl, h.1, h.2, hr⟩

theorem constText_dot (k : List Char) : constText "." k = k :=
  SCP.C08.strReplace_self '.' k

/-- one row of the table: the code text has one of the three shapes, its constant is a literal, and the factor the
    translator computed for it is the one the constant denotes (7 characters of `{value}`, then 3 of ` * ` / ` / `, then
    the constant) -/
def codeRowOK (e : String × Nat × Nat) : Bool :=
  let cs := e.1.toList
  let tail := cs.drop 7
  let k := tail.drop 3
  let q : Rat := (e.2.1 : Rat) / (e.2.2 : Rat)
  decide (cs = "{value}".toList ++ tail) &&
    ((decide (tail = []) && decide (q = 1)) ||
     (decide (tail = ' ' :: '*' :: ' ' :: k) && litShapeB k && !k.contains '{' &&
        (match (readLiteral "." "" k : Option Rat) with | some kv => decide (kv = q) | none => false)) ||
     (decide (tail = ' ' :: '/' :: ' ' :: k) && litShapeB k && !k.contains '{' &&
        (match (readLiteral "." "" k : Option Rat) with | some kv => decide (q * kv = 1) | none => false)))

/-- data obligation on the regenerated table: every configured conversion code is `{value}`, `{value} * K` or
    `{value} / K` with a literal `K`, and the factor table of the translator agrees with the literal -/
theorem gen_codes_ok : Gen.codeFactors.all codeRowOK = true := by decide +kernel

theorem row_const {k : List Char} {kv : Rat} (hs : litShapeB k = true) (hb : k.contains '{' = false)
    (hr : readLiteral "." "" k = some kv) : '{' ∉ k ∧ LitOK "." "" (constText "." k) kv :=
  ⟨by simpa using hb, by rw [constText_dot]; exact litOK_of_shape _ _ _ _ hs hr⟩

/-- the hypothesis of C12 (`ExecIsMult`), per amount: for every configured code and every amount whose printed text
    reads back as itself, the model of `execute_code` — substitute, tokenise, parse, interpret — returns the amount
    times the factor of the code -/
theorem gen_codes_multiply (code : String) (n d : Nat) (h : assoc? Gen.codeFactors code = some (n, d)) (v : Rat)
    (hv : LitOK "." "" (amountText "." v) v) :
    executeCode "." "" code v = some (v * SCP.C12.mult code) := by
  have hrow := List.all_eq_true.mp gen_codes_ok _ (SCP.C08Code.assoc?_mem _ _ _ h)
  have hm : SCP.C12.mult code = (n : Rat) / (d : Rat) := by simp [SCP.C12.mult, h]
  rw [hm]
  simp only [codeRowOK, Bool.and_eq_true, Bool.or_eq_true, decide_eq_true_eq, Bool.not_eq_true'] at hrow
  obtain ⟨hpre, hshape⟩ := hrow
  -- In the two binary shapes `hk` is the test on what the constant reads to.  It is taken apart by `split` where it stands:
  -- a lemma about such a `match` would state it with a `match` of its own, and to identify the two Lean unfolds both and
  -- evaluates `readLiteral` on the unknown constant as far as it can.
  rcases hshape with (⟨ht, hq⟩ | ⟨⟨⟨ht, hs⟩, hb⟩, hk⟩) | ⟨⟨⟨ht, hs⟩, hb⟩, hk⟩
  · rw [ht, List.append_nil] at hpre                                   -- `{value}`, factor 1
    rw [executeCode_id "." "" code v hpre hv, hq, Rat.mul_one]
  · rw [ht] at hpre                                                    -- `{value} * K`, factor K
    split at hk
    next kv hr =>
      obtain ⟨hb', hK⟩ := row_const hs hb hr
      rw [executeCode_mul "." "" code _ kv v hpre hb' hK hv, of_decide_eq_true hk]
      rfl
    · cases hk
  · rw [ht] at hpre                                                    -- `{value} / K`, factor the inverse of K
    split at hk
    next kv hr =>
      obtain ⟨hb', hK⟩ := row_const hs hb hr
      rw [executeCode_div "." "" code _ kv v hpre hb' hK hv, SCP.Lemmas.C13.gdiv_rat, Rat.div_def,
        Rat.inv_eq_of_mul_eq_one (Rat.mul_comm _ _ ▸ of_decide_eq_true hk)]
    · cases hk

theorem litOK_of_text (dec thou : String) (txt : List Char) (v : F) (h : litTextB txt = true)
    (hr : readLiteral dec thou txt = some v) : LitOK dec thou txt v := by
  cases txt with
  | nil => cases h
  | cons c rest =>
    simp only [litTextB] at h
    split at h
    next hc =>                                       -- a sign, then a digit
      cases rest with
      | nil => cases h
      | cons d more =>
        simp only [Bool.and_eq_true, List.all_eq_true] at h
        simp only [Bool.or_eq_true, decide_eq_true_eq] at hc
        exact ⟨[c], d, more, rfl, .inr (hc.imp (congrArg ([·])) (congrArg ([·]))), h.1, h.2, hr⟩
    · exact litOK_of_shape dec thou _ v h hr          -- no sign: `h` is `litShapeB (c :: rest) = true`

/-- `SC.amountChars` is the model-side copy of `amountText` (SC/ReadsBack.lean is compiled into the driver and imports nothing of SCP) -/
theorem amountChars_eq (dec : String) (v : F) : amountChars dec v = amountText dec v := rfl

/-- over exact arithmetic the evaluated hypothesis is the hypothesis -/
theorem readsBack_rat (v : Rat) (h : readsBackB "." "" v = true) : LitOK "." "" (amountText "." v) v := by
  simp only [readsBackB, Bool.and_eq_true] at h
  obtain ⟨h1, h2⟩ := h
  rw [amountChars_eq] at h1 h2
  cases hr : (readLiteral "." "" (amountText "." v) : Option Rat) with
  | none => rw [hr] at h2; simp at h2
  | some w =>
    rw [hr] at h2
    have : w = v := by simpa [Num.beq] using h2
    -- not `this ▸ hr`: `v` also occurs inside `amountText "." v`, and the rewrite ends in a huge unification
    subst this
    exact litOK_of_text _ _ _ _ h1 hr

/-- non-vacuity: amounts with a sign and a fraction satisfy the hypothesis, and the theorem's conclusion is what the
    model computes on them -/
example : readsBackB "." "" (-5 / 2 : Rat) = true ∧ readsBackB "." "" (1234.5678 : Rat) = true := by decide +kernel
example : executeCode "." "" "{value} * 25.4" (-5 / 2 : Rat) = some (-127 / 2) := by decide +kernel
example : executeCode "." "" "{value} / 28349.5231" (283495231 / 100 : Rat) = some 100 := by decide +kernel
/-- and an amount that does NOT satisfy it (a third has no finite decimal text) -/
example : readsBackB "." "" (1 / 3 : Rat) = false := by decide +kernel

/-- one step of the walk with the real executor: converting to the next higher unit of a configured family runs the
    item's up code through `execute_code`, and yields the amount times the factor of that code -/
theorem step_up (items : List (UnitItem Rat)) (p : Nat) (a b : UnitItem Rat) (n d : Nat)
    (ha : findItem? items p = some a) (hb : findItem? items (p + 1) = some b) (hbi : b.index = p + 1)
    (hcode : assoc? Gen.codeFactors a.up = some (n, d)) (v : Rat) (hv : LitOK "." "" (amountText "." v) v) :
    calculateUnit "." "" items v p (p + 1) = some (v * SCP.C12.mult a.up) := by
  unfold calculateUnit calculateUnitWith
  have hne : ¬ (p = p + 1) := by omega
  have hgt : ¬ (p > p + 1) := by omega
  -- `calculate_unit` finds the source item and starts the loop upwards; its first round runs the code and arrives
  simp only [hne, if_false, ha, hgt, decide_false, Bool.not_false, if_true]
  rw [calculateUnitWith.loop]
  simp only [if_true, gen_codes_multiply a.up n d hcode v hv, hb, hbi]

/-- … and to the next lower unit its down code -/
theorem step_down (items : List (UnitItem Rat)) (p : Nat) (a b : UnitItem Rat) (n d : Nat)
    (ha : findItem? items (p + 1) = some a) (hb : findItem? items p = some b) (hbi : b.index = p)
    (hcode : assoc? Gen.codeFactors a.down = some (n, d)) (v : Rat) (hv : LitOK "." "" (amountText "." v) v) :
    calculateUnit "." "" items v (p + 1) p = some (v * SCP.C12.mult a.down) := by
  unfold calculateUnit calculateUnitWith
  have hne : ¬ (p + 1 = p) := by omega
  have hgt : p + 1 > p := by omega
  -- the same downwards (from an index above 0)
  simp only [hne, if_false, ha, hgt, decide_true, Bool.not_true, Bool.false_eq_true, Nat.add_one_ne_zero, Nat.add_sub_cancel]
  rw [calculateUnitWith.loop]
  simp only [Bool.false_eq_true, if_false, gen_codes_multiply a.down n d hcode v hv, hb, hbi, if_true]

/-- non-vacuity on the configured inch family: 5/2 ft is 30 in, through the real executor -/
example : calculateUnit "." "" ((assoc? (Gen.units Rat) "imperial-unit-length").getD []) (5 / 2 : Rat) 2 1 = some 30 := by decide +kernel

end SCP.C12Exec
