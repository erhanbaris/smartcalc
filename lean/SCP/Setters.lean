/-
  SCP.Setters — histories of configuration calls (`set_decimal_seperator`, `set_thousand_separator`,
  `set_number_configuration`, `set_percentage_configuration`, `set_money_configuration`).

  What the checks have to cover here is not inputs but HISTORIES of calls: a setter that ignores a value equal to the other
  separator shows in one order of the two calls only, a cache that compares the percentage settings with the number settings
  only after both were set.  On the model the setters are record updates (`SC.setDecimalSeparator`, …; the driver's `cfg_sep`, `cfg_num`,
  `cfg_pct`, `cfg_money` operations go through them), so after ANY history the configuration is the initial one with, in each group of settings, the
  value the last call of that group wrote (`run_eq`).  Every other statement of the file is read off that closed form.
  Tie: every `cfg` operation of the correspondence runs (C02 scanner tie in either order, C04 configuration-change histories,
  C05 / C07 / C08 / C12 conventions) reaches the model through these functions; the implementation is driven through its real setters.
-/
import SC.Calc
namespace SCP.Setters
open SC
variable {F : Type} [Num F]
set_option linter.unusedSectionVars false

/-- a call of one of the five setters of the separators and number formats; `run` is the configuration after a history -/
inductive CfgOp
  | dec (s : String)
  | thou (s : String)
  | num (f : NumFmt)
  | pct (f : NumFmt)
  | money (removeZero rounding : Bool)

def step (c : Cfg F) : CfgOp → Cfg F
  | .dec s => setDecimalSeparator c s
  | .thou s => setThousandSeparator c s
  | .num f => setNumberConfiguration c f
  | .pct f => setPercentageConfiguration c f
  | .money rz r => setMoneyConfiguration c rz r

def run (c : Cfg F) : List CfgOp → Cfg F
  | [] => c
  | op :: ops => run (step c op) ops

/-- the value the LAST call of a kind wrote, if there was one -/
def lastDec : List CfgOp → Option String
  | [] => none
  | op :: ops => (lastDec ops).or (match op with | .dec s => some s | _ => none)
def lastThou : List CfgOp → Option String
  | [] => none
  | op :: ops => (lastThou ops).or (match op with | .thou s => some s | _ => none)
def lastNum : List CfgOp → Option NumFmt
  | [] => none
  | op :: ops => (lastNum ops).or (match op with | .num f => some f | _ => none)
def lastPct : List CfgOp → Option NumFmt
  | [] => none
  | op :: ops => (lastPct ops).or (match op with | .pct f => some f | _ => none)
def lastMoney : List CfgOp → Option (Bool × Bool)
  | [] => none
  | op :: ops => (lastMoney ops).or (match op with | .money a b => some (a, b) | _ => none)

theorem dec_thou_comm (c : Cfg F) (d t : String) :
    setThousandSeparator (setDecimalSeparator c d) t = setDecimalSeparator (setThousandSeparator c t) d := rfl

/-- a setter writes its argument, whatever the other separator currently is (in particular when they are equal) -/
theorem setThousand_writes (c : Cfg F) (t : String) : (setThousandSeparator c t).thou = t ∧ (setThousandSeparator c t).dec = c.dec := ⟨rfl, rfl⟩
theorem setDecimal_writes (c : Cfg F) (d : String) : (setDecimalSeparator c d).dec = d ∧ (setDecimalSeparator c d).thou = c.thou := ⟨rfl, rfl⟩

/-- after any history: the initial configuration with, in each group of settings, what the last call of that group wrote -/
theorem run_eq (c : Cfg F) (ops : List CfgOp) :
    run c ops = { c with
      dec := (lastDec ops).getD c.dec, thou := (lastThou ops).getD c.thou,
      numFmt := (lastNum ops).getD c.numFmt, pctFmt := (lastPct ops).getD c.pctFmt,
      moneyRemoveZero := ((lastMoney ops).getD (c.moneyRemoveZero, c.moneyRounding)).1,
      moneyRounding := ((lastMoney ops).getD (c.moneyRemoveZero, c.moneyRounding)).2 } := by
  induction ops generalizing c with
  | nil => rfl
  | cons op ops ih =>
    rw [run, ih]
    -- the rest of the history starts from `step c op`: in the group of `op` its value stands where the initial one stood
    -- (`Option.getD_or`), the other groups are those of `c`
    cases op <;>
      simp [step, setDecimalSeparator, setThousandSeparator, setNumberConfiguration, setPercentageConfiguration,
        setMoneyConfiguration, lastDec, lastThou, lastNum, lastPct, lastMoney]

theorem run_dec (c : Cfg F) (ops : List CfgOp) : (run c ops).dec = (lastDec ops).getD c.dec := by
  rw [run_eq]

theorem run_thou (c : Cfg F) (ops : List CfgOp) : (run c ops).thou = (lastThou ops).getD c.thou := by
  rw [run_eq]

theorem run_num (c : Cfg F) (ops : List CfgOp) : (run c ops).numFmt = (lastNum ops).getD c.numFmt := by
  rw [run_eq]

/-- in particular: a change of the number settings never reaches the percentage settings, and vice versa -/
theorem run_pct (c : Cfg F) (ops : List CfgOp) : (run c ops).pctFmt = (lastPct ops).getD c.pctFmt := by
  rw [run_eq]

theorem run_money (c : Cfg F) (ops : List CfgOp) :
    ((run c ops).moneyRemoveZero, (run c ops).moneyRounding) = (lastMoney ops).getD (c.moneyRemoveZero, c.moneyRounding) := by
  rw [run_eq]

theorem run_frame (c : Cfg F) (ops : List CfgOp) :
    (run c ops).rates = c.rates ∧ (run c ops).currencies = c.currencies ∧ (run c ops).currencyAlias = c.currencyAlias ∧ (run c ops).tz = c.tz ∧
    (run c ops).zones = c.zones ∧ (run c ops).units = c.units ∧ (run c ops).bridges = c.bridges ∧ (run c ops).langs = c.langs := by
  rw [run_eq]
  exact ⟨rfl, rfl, rfl, rfl, rfl, rfl, rfl, rfl⟩

/-- the number syntax alone (read and printed) needs no agreement on the money settings -/
theorem run_same_last (c : Cfg F) (ops ops' : List CfgOp)
    (h1 : lastDec ops = lastDec ops') (h2 : lastThou ops = lastThou ops') (h3 : lastNum ops = lastNum ops') (h4 : lastPct ops = lastPct ops') :
    (run c ops).dec = (run c ops').dec ∧ (run c ops).thou = (run c ops').thou ∧ (run c ops).numFmt = (run c ops').numFmt ∧ (run c ops).pctFmt = (run c ops').pctFmt := by
  rw [run_eq, run_eq, h1, h2, h3, h4]
  exact ⟨rfl, rfl, rfl, rfl⟩

/-- non-vacuity: the history of the seeded change C02-12 (thousands first, to the value the decimal separator has at that moment) -/
example : ((run (F := Rat) {} [.thou ",", .dec "."]).dec, (run (F := Rat) {} [.thou ",", .dec "."]).thou) = (".", ",") := by decide

/-- the configuration is a function of the last writes: two histories on the same calculator whose last call of each kind wrote
    the same values leave the SAME configuration — hence every later evaluation is the same, whatever the order, repetition or
    intermediate values of the calls were -/
theorem run_eq_of_same_last (c : Cfg F) (ops ops' : List CfgOp)
    (h1 : lastDec ops = lastDec ops') (h2 : lastThou ops = lastThou ops') (h3 : lastNum ops = lastNum ops')
    (h4 : lastPct ops = lastPct ops') (h5 : lastMoney ops = lastMoney ops') : run c ops = run c ops' := by
  rw [run_eq, run_eq, h1, h2, h3, h4, h5]

end SCP.Setters
