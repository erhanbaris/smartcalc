/-
  SCP.ParserTotal — the model's parser never runs out of fuel: on EVERY token list `parseExpr`
  returns either a tree or one of the implementation's own error kinds, never the model's
  artificial `Err.other` (fuel exhausted).  The fuel counts the calls and loop rounds that the
  Rust code performs without a bound, so this is the parser's share of the termination clause
  of C01, on the model, for all inputs and not only for the well-formed lines of C02.

  Proof: one invariant `Good` of a result (not `Err.other`; on success fewer tokens are left
  than a given number), shown for the five mutually recursive functions together by ONE
  induction on the fuel (`good`: every call at fuel `n + 1` goes to fuel `n`, so the five facts
  at `n` are the induction hypothesis).  A call on `n` tokens needs the fuel  level l: 6n+5−l,
  unary: 6n+1,  parenthesis body: 6n+6,  binary loop: 6n+1,  operand loop: 6n+6;  one token
  costs the six calls level 0 → 1 → 2 → 3 → unary → parenthesis body → level 0 (an unmatched `(`
  does; on the tokens of a tree, where a `)` shares them, `4n` is enough: SCP.Lemmas.C02, `Parses`).
  The `6n` is written `cost ts` and a shorter list is known to `omega` only through `cost_lt`:
  all the arithmetic then has coefficients 1, which `omega` decides at half the price.
-/
import SC.Parser
namespace SCP.ParserTotal
open SC
variable {F : Type}

def Good (n : Nat) : PRes F → Prop
  | .error e => e ≠ .other
  | .ok (_, ts') => ts'.length < n

theorem Good.error {n m : Nat} {r : PRes F} {e : Err} (h : Good n r) (he : r = .error e) :
    Good m (.error e : PRes F) := by
  subst he; exact h

theorem Good.lt {n : Nat} {r : PRes F} {a : Ast F} {ts' : List (Tok F)} (h : Good n r)
    (he : r = .ok (a, ts')) : ts'.length < n := by
  subst he; exact h

theorem Good.mono {n m : Nat} {r : PRes F} (h : Good n r) (hnm : n ≤ m) : Good m r := by
  match r, h with
  | .error _, h => exact h
  | .ok _, h => exact Nat.lt_of_lt_of_le h hnm

theorem parseBasic_good : ∀ ts : List (Tok F), Good ts.length (parseBasic ts)
  | [] => nofun
  | t :: rest => by
    cases t with
    | op | month => nofun                               -- no operand: `noMoreToken`
    | _ => exact Nat.lt_succ_self rest.length           -- one token consumed

theorem matchOp_lt {ops : List Op} {ts ts1 : List (Tok F)} {o : Op}
    (h : matchOp ops ts = some (o, ts1)) : ts1.length < ts.length := by
  unfold matchOp at h
  split at h
  · split at h
    · cases h; exact Nat.lt_succ_self _
    · cases h
  · cases h

def cost (ts : List (Tok F)) : Nat := 6 * ts.length

theorem cost_lt {ts' ts : List (Tok F)} (h : ts'.length < ts.length) : cost ts' + 6 ≤ cost ts :=
  Nat.mul_le_mul_left 6 h                               -- `6 * (ts'.length + 1) ≤ 6 * ts.length`

theorem cost_cons (t : Tok F) (ts : List (Tok F)) : cost (t :: ts) = cost ts + 6 := rfl

variable [Num F]

/- In each function the result `r` of the first call is `Good` by the induction hypothesis `h`;
   `split` then walks the `match r with …` of the definition: an error arm passes `r` on
   (`h.error`), a success arm goes on with the `ts'` of `r`, which is shorter (`h.lt`). -/
theorem good : ∀ fuel : Nat,
    (∀ lvl (ts : List (Tok F)), lvl ≤ 3 → cost ts + 5 ≤ fuel + lvl → Good ts.length (parseLevel fuel lvl ts)) ∧
    (∀ lvl left (ts : List (Tok F)), lvl < 3 → cost ts + 1 ≤ fuel → Good (ts.length + 1) (binLoop fuel lvl left ts)) ∧
    (∀ lvl (ts : List (Tok F)), lvl < 3 → cost ts + 6 ≤ fuel → Good ts.length (rightLoop fuel lvl ts)) ∧
    (∀ ts : List (Tok F), cost ts + 6 ≤ fuel → Good ts.length (parseParenBody fuel ts)) ∧
    (∀ ts : List (Tok F), cost ts + 1 ≤ fuel → Good ts.length (parseUnary fuel ts)) := by
  intro fuel
  induction fuel with
  | zero =>                                             -- no fuel: no bound holds
    have never {P : Prop} {m : Nat} (h : m + 1 ≤ 0) : P := absurd h (Nat.not_succ_le_zero m)
    exact ⟨fun _ _ _ _ => by omega, fun _ _ _ _ => never, fun _ _ _ => never, fun _ => never, fun _ => never⟩
  | succ n ih =>
    obtain ⟨level, bin, right, paren, unary⟩ := ih
    refine ⟨?level, ?bin, ?right, ?paren, ?unary⟩
    case level =>
      intro lvl ts h3 hf
      rw [parseLevel]
      split
      next => exact unary ts (by omega)                 -- level 3: the unary parser
      next =>
        have ⟨hl, hn⟩ : lvl < 3 ∧ cost ts + 5 ≤ n + (lvl + 1) := by omega
        have h := level (lvl + 1) ts hl hn
        split
        next e he => exact h.error he                   -- error
        next ts' he => exact h.lt he                    -- no operand
        next a ts' _ he =>                              -- operand, then the loop
          have := cost_lt (h.lt he)
          exact (bin lvl a ts' hl (by omega)).mono (h.lt he)
    case bin =>                                         -- the loop may stop at once and return all of `ts`
      intro lvl left ts hl hf
      rw [binLoop]
      split
      next => exact Nat.lt_succ_self _                  -- no operator
      next o ts1 hm =>
        have := cost_lt (matchOp_lt hm)
        have h := right lvl ts1 hl (by omega)
        split
        next e he => exact h.error he                   -- error
        next r ts2 he =>                                -- operand, next round
          have := cost_lt (h.lt he)
          exact (bin lvl _ ts2 hl (by omega)).mono (Nat.lt_succ_of_lt (Nat.lt_trans (h.lt he) (matchOp_lt hm)))
    case right =>
      intro lvl ts hl hf
      rw [rightLoop]
      have h := level (lvl + 1) ts hl (by omega)
      split
      next e he => exact h.error he                     -- error
      next ts' he =>                                    -- no operand, next round
        have := cost_lt (h.lt he)
        exact (right lvl ts' hl (by omega)).mono (Nat.le_of_lt (h.lt he))
      next a ts' _ he => exact h.lt he                  -- operand
    case paren =>
      intro ts hf
      rw [parseParenBody]
      have h := level 0 ts (Nat.zero_le 3) (by omega)
      split
      next e he => exact h.error he                     -- error
      next => nofun                                     -- nothing inside: `invalidExpr`
      next a ts3 _ he =>
        split
        next => nofun                                   -- not closed: `parenNotClosed`
        next ts4 hm => exact Nat.lt_trans (matchOp_lt hm) (h.lt he)   -- closed
    case unary =>
      intro ts hf
      unfold parseUnary
      split
      next o rest =>
        rw [cost_cons] at hf
        by_cases hs : o.isSign = true
        case pos =>
          rw [if_pos hs]
          split
          next => exact (parseBasic_good []).mono (Nat.zero_le _)      -- sign alone
          next t rest' =>
            rw [cost_cons] at hf
            split
            next =>                                                    -- sign, parenthesis
              have h := paren rest' (by omega)
              split
              next e he => exact h.error he                            -- error inside
              next a ts4 he => exact Nat.lt_succ_of_lt (Nat.lt_succ_of_lt (h.lt he))
            next =>
              split
              next => exact Nat.lt_succ_of_lt (Nat.lt_succ_self _)     -- sign, operand
              next => nofun                                            -- sign, other token: `unaryNumber`
        case neg =>
          rw [if_neg hs]
          split
          next => exact (paren rest (by omega)).mono (Nat.le_succ _)   -- parenthesis
          next => exact parseBasic_good (.op o :: rest)                -- basic (another operator)
      next => exact parseBasic_good ts                                 -- basic

/-- the entry point has fuel for level 0 on all of `ts` -/
theorem parseExpr_good (ts : List (Tok F)) : Good ts.length (parseExpr ts) :=
  (good (parseFuel ts)).1 0 ts (Nat.zero_le 3) (by unfold parseFuel cost; omega)

/-- on every token list the parser returns a tree or one of the implementation's
    error kinds; its fuel is never exhausted -/
theorem parseExpr_total (ts : List (Tok F)) : parseExpr ts ≠ .error .other := fun he =>
  -- `Good 0 (.error .other)` is `Err.other ≠ Err.other`
  (parseExpr_good ts).error (m := 0) he rfl

theorem parseExpr_consumes (ts : List (Tok F)) (a : Ast F) (ts' : List (Tok F)) (h : parseExpr ts = .ok (a, ts')) :
    ts'.length < ts.length :=
  (parseExpr_good ts).lt h

end SCP.ParserTotal
