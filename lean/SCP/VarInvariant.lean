/-
  SCP.VarInvariant — the hypothesis `NamesOK` of the termination theorem of the variable loop
  (`SCP.VarTermination`) is an invariant of evaluation: evaluating a line keeps it, provided the
  NAME the line assigns to (the tokens in front of `=`, after the rewrite layers) is admissible
  — non-empty, no pattern-field token, not a single variable token.  The interpreter never
  changes the name tokens of a variable (`execAst_names`), the parser registers at most the
  line's own name (`parseLine_names`).  The per-line condition is decidable; the driver
  evaluates it on every line of the correspondence runs.
-/
import SC.Engine
import SCP.VarTermination
namespace SCP.VarInvariant
open SC SCP.VarTermination
variable {F : Type} [Num F]
set_option linter.unusedSectionVars false

def NameOK (name : List (Tok F)) : Prop :=
  name ≠ [] ∧ (∀ r ∈ name, ∀ f, r ≠ .field f) ∧ (∀ x, name ≠ [.var x])

theorem nameOKb_iff (name : List (Tok F)) : nameOKb name = true ↔ NameOK name := by
  simp only [nameOKb, NameOK, Bool.and_eq_true, Bool.not_eq_true', List.isEmpty_eq_false_iff, List.all_eq_true, and_assoc]
  refine and_congr_right fun _ => and_congr (forall₂_congr fun r _ => ?_) ?_
  · cases r <;> simp          -- no pattern field: token by token
  · split <;> simp_all        -- not a single variable token

theorem namesOK_iff (vs : Vars F) : NamesOK vs ↔ ∀ kv ∈ vs, NameOK kv.2.toks := Iff.rfl

theorem get?_mem (vs : Vars F) (k : String) (info : VarInfo F) (h : vs.get? k = some info) : (k, info) ∈ vs := by
  fun_induction Vars.get? vs k <;> simp_all

theorem mem_insert {vs : Vars F} {k : String} {v : VarInfo F} {kv : String × VarInfo F} (h : kv ∈ vs.insert k v) :
    kv = (k, v) ∨ kv ∈ vs := by
  fun_induction Vars.insert vs k v <;> grind

theorem insert_namesOK (vs : Vars F) (k : String) (v : VarInfo F) (h : NamesOK vs) (hv : NameOK v.toks) : NamesOK (vs.insert k v) := by
  intro kv hkv
  rcases mem_insert hkv with rfl | hkv
  · exact hv
  · exact h kv hkv

theorem execAst_names (rates : List (String × F)) (conv : UnitRef → F → UnitRef → Option F) :
    ∀ (ast : Ast F) (vs : Vars F) (v : Val F) (vs' : Vars F),
      execAst rates conv vs ast = .ok (v, vs') → NamesOK vs → NamesOK vs' :=
  fun ast _ _ _ => SCP.C03.exec_preserves NamesOK ast
    fun m n info _ _ hg hm => insert_namesOK m n _ hm (hm _ (get?_mem m n info hg))

theorem parseLine_names (vs : Vars F) (toks : List (Tok F)) (ast : Ast F) (vs' : Vars F)
    (h : parseLine vs toks = .ok (ast, vs')) (hok : NamesOK vs)
    (hname : ∀ name, lineName toks = some name → NameOK name) : NamesOK vs' := by
  obtain rfl | ⟨name, hn, _, rfl⟩ := SCP.C03.parseLine_vars h
  · exact hok
  · exact insert_namesOK vs _ _ hok (hname name hn)

theorem evalTokens_names (c : Cfg F) (vs : Vars F) (infos : List (TokInfo F)) (hok : NamesOK vs)
    (hname : ∀ name, lineName (postProcess infos) = some name → NameOK name) : NamesOK (evalTokens c vs infos).1 := by
  unfold evalTokens
  split
  next => exact hok                                        -- no token
  next =>
    split
    next => exact hok                                      -- parse error
    next ast vs' hp =>
      have h1 := parseLine_names vs _ ast vs' hp hok hname
      split
      next => exact h1                                     -- evaluation error: the variables the parser left
      next v vs'' he => exact execAst_names _ _ ast vs' v vs'' he h1

theorem evalInfos_names (c : Cfg F) (lang : String) (now : Now) (vs : Vars F) (infos : List (TokInfo F)) (hok : NamesOK vs)
    (hname : ∀ name, lineName (postProcess (rewriteInfos c lang now vs infos)) = some name → NameOK name) :
    NamesOK (evalInfos c lang now vs infos).1 :=
  evalTokens_names c vs _ hok hname

/-- the condition on one line, in the session state it is evaluated in (decidable; evaluated by the driver) -/
def LineOK (c : Cfg F) (lang : String) (now : Now) (vs : Vars F) (infos : List (TokInfo F)) : Prop :=
  ∀ name, lineName (postProcess (rewriteInfos c lang now vs infos)) = some name → NameOK name

def varsAfter (c : Cfg F) (lang : String) (now : Now) : Vars F → List (List (TokInfo F)) → Vars F
  | vs, [] => vs
  | vs, l :: ls => varsAfter c lang now (evalInfos c lang now vs l).1 ls

def AllLinesOK (c : Cfg F) (lang : String) (now : Now) : Vars F → List (List (TokInfo F)) → Prop
  | _, [] => True
  | vs, l :: ls => LineOK c lang now vs l ∧ AllLinesOK c lang now (evalInfos c lang now vs l).1 ls

/-- every reachable session state satisfies `NamesOK`: from the empty session, after any sequence of admissible lines -/
theorem session_names (c : Cfg F) (lang : String) (now : Now) :
    ∀ (ls : List (List (TokInfo F))) (vs : Vars F), NamesOK vs → AllLinesOK c lang now vs ls → NamesOK (varsAfter c lang now vs ls) := by
  intro ls
  induction ls with
  | nil => intro vs h _; exact h
  | cons l rest ih =>
    intro vs h hall
    exact ih _ (evalInfos_names c lang now vs l h hall.1) hall.2

/-- the driver's flag is the hypothesis -/
theorem lineOKb_iff (c : Cfg F) (lang : String) (now : Now) (vs : Vars F) (infos : List (TokInfo F)) :
    lineOKb c lang now vs infos = true ↔ LineOK c lang now vs infos := by
  unfold lineOKb LineOK
  cases lineName (postProcess (rewriteInfos c lang now vs infos)) with
  | none => simp
  | some n => simp [nameOKb_iff]

theorem empty_names : NamesOK ([] : Vars F) := fun _ h => nomatch h

/-- hence the variable-substitution loop of every line of such a session reaches its fixpoint within the model's fuel -/
theorem session_var_loop_terminates (c : Cfg F) (lang : String) (now : Now) (ls : List (List (TokInfo F)))
    (hall : AllLinesOK c lang now [] ls) (infos : List (TokInfo F)) (k : Nat) :
    varLoop (varsAfter c lang now [] ls) (varStartIndex infos) (2 * infos.length + 1 + k) infos =
      updateTokenVariables (varsAfter c lang now [] ls) infos :=
  updateTokenVariables_stable _ (session_names c lang now ls [] empty_names hall) infos k

end SCP.VarInvariant
