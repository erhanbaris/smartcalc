/-
  SCP.C08Code — unit conversion does not depend on the separator configuration.

  `execute_code` substitutes the value into the conversion code, rewrites every '.' of that text
  into the configured decimal separator and hands the text to the tokenizer, which reads literals
  with the configured separators.  Theorem `codeLex_comma`: for every text without ',' in which
  every '.' stands inside a number (`dotsOK`), tokenizing the rewritten text under decimal ','
  (thousands '.' or none) gives exactly the tokens of the original text under decimal '.'
  (thousands ',' or none).  Hence `executeCode_sep`: the four conventions compute the same value
  from the same code and amount.
-/
import SC.Units
import SCP.C08
import SCP.Lex
namespace SCP.C08Code
open SC SCP.C08 SCP.Lex
variable {F : Type} [Num F]

def swapDot (c : Char) : Char := if c = '.' then ',' else c
def toComma (s : List Char) : List Char := s.map swapDot

theorem swapDot_class (p : Char → Bool) (hp : p ',' = p '.') (c : Char) : p (swapDot c) = p c := by
  unfold swapDot
  split
  next h => rw [h, hp]
  · rfl

theorem isDigit_swap (c : Char) : isDigit (swapDot c) = isDigit c := swapDot_class _ (by decide) c

theorem takeWhile_toComma (p : Char → Bool) (hp : p ',' = p '.') (s : List Char) :
    (toComma s).takeWhile p = toComma (s.takeWhile p) :=
  List.takeWhile_map.trans (congrArg (fun q => toComma (s.takeWhile q)) (funext (swapDot_class p hp)))

theorem dropWhile_toComma (p : Char → Bool) (hp : p ',' = p '.') (s : List Char) :
    (toComma s).dropWhile p = toComma (s.dropWhile p) :=
  List.dropWhile_map.trans (congrArg (fun q => toComma (s.dropWhile q)) (funext (swapDot_class p hp)))

theorem flatMap_same (s : List Char) (c : Char) :
    s.flatMap (fun x => if x = c then [c] else [x]) = s :=
  (strReplace_single s [c] c).symm.trans (strReplace_self c s)

theorem dot_not_mem_toComma (s : List Char) : '.' ∉ toComma s := by
  intro h
  obtain ⟨c, _, hc⟩ := List.mem_map.mp h
  unfold swapDot at hc
  split at hc
  · cases hc
  · exact absurd hc ‹_›

theorem strReplace_toComma (txt : List Char) (h : ',' ∉ txt) : strReplace (toComma txt) [','] ['.'] = txt := by
  rw [strReplace_char, toComma, List.map_map]
  refine (List.map_congr_left fun x hx => ?_).trans (List.map_id _)
  have : x ≠ ',' := fun e => h (e ▸ hx)
  simp only [Function.comp, swapDot]
  split <;> simp [*]

theorem readLiteral_comma (thou thou' : String) (ht : thou = "." ∨ thou = "") (ht' : thou' = "," ∨ thou' = "")
    (txt : List Char) (h : ',' ∉ txt) :
    (readLiteral "," thou (toComma txt) : Option F) = readLiteral "." thou' txt := by
  have lhs : strReplace (toComma txt) thou.toList [] = toComma txt := by
    rcases ht with rfl | rfl
    · exact strReplace_absent '.' [] [] _ (dot_not_mem_toComma txt)
    · exact strReplace_nil_nil _
  have rhs : strReplace txt thou'.toList [] = txt := by
    rcases ht' with rfl | rfl
    · exact strReplace_absent ',' [] [] _ h
    · exact strReplace_nil_nil _
  unfold readLiteral
  rw [lhs, rhs]
  exact congrArg _ ((strReplace_toComma txt h).trans (strReplace_self '.' txt).symm)

theorem letter_not_digit (c : Char) (hb : isAsciiLetter c = true) : isDigit c = false := by
  -- letters are the codes 65..90 and 97..122, digits 48..57: both tests as inequalities between numbers, then `omega`
  simp only [isAsciiLetter, Bool.or_eq_true, Bool.and_eq_true, decide_eq_true_eq, Char.le_def, UInt32.le_iff_toNat_le,
    Char.reduceVal, UInt32.reduceToNat] at hb
  simp only [isDigit, Char.toNat, Char.reduceVal, UInt32.reduceToNat, Bool.and_eq_false_imp, decide_eq_true_eq,
    decide_eq_false_iff_not]
  omega

theorem dotsOK_dropWhile_numBody : ∀ (s : List Char) (p : Bool), dotsOK p s = true → dotsOK false (s.dropWhile isNumBody) = true := by
  intro s
  induction s with
  | nil => intro p _; rfl
  | cons c rest ih =>
    intro p h
    by_cases hb : isNumBody c = true
    · rw [List.dropWhile_cons_of_pos hb]
      by_cases hd : c = '.'
      · simp only [dotsOK, hd, if_true, Bool.and_eq_true] at h
        exact ih true h.2
      · simp only [dotsOK, hd, if_false] at h
        exact ih _ h
    · rw [List.dropWhile_cons_of_neg hb]
      have hd : c ≠ '.' := by intro e; subst e; exact hb (by decide)
      simpa [dotsOK, hd] using h

theorem dotsOK_dropWhile_letters : ∀ (s : List Char), dotsOK false s = true → dotsOK false (s.dropWhile isAsciiLetter) = true := by
  intro s
  induction s with
  | nil => intro _; rfl
  | cons c rest ih =>
    intro h
    by_cases hb : isAsciiLetter c = true
    · rw [List.dropWhile_cons_of_pos hb]
      have hd : c ≠ '.' := by intro e; subst e; exact absurd hb (by decide)
      have hdig : isDigit c = false := letter_not_digit c hb
      simp only [dotsOK, hd, if_false, hdig] at h
      exact ih h
    · rw [List.dropWhile_cons_of_neg hb]; exact h

theorem toComma_letters (s : List Char) : toComma (s.takeWhile isAsciiLetter) = s.takeWhile isAsciiLetter := by
  refine (List.map_congr_left fun c hc => if_neg ?_).trans (List.map_id _)
  rintro rfl
  exact absurd (List.all_eq_true.mp List.all_takeWhile _ hc) (by decide)

theorem startsNum_toComma (c : Char) (rest : List Char) : startsNum c (toComma rest) = startsNum c rest := by
  cases rest with
  | nil => rfl
  | cons d r => simp only [startsNum, startsDigit, toComma, List.map_cons, isDigit_swap]

theorem lexTok_rest {dec thou : String} {s r : List Char} {t : Tok F} (h : lexTok dec thou s = some (t, r))
    (hc : ',' ∉ s) (hd : dotsOK false s = true) : ',' ∉ r ∧ dotsOK false r = true := by
  cases s with
  | nil => cases h
  | cons c rest =>
    have hcd : c ≠ '.' := by rintro rfl; simp [dotsOK] at hd
    have hrest : ',' ∉ rest := fun hm => hc (List.mem_cons_of_mem _ hm)
    have hd' : dotsOK (isDigit c) rest = true := by simpa [dotsOK, hcd] using hd
    have hnum := dotsOK_dropWhile_numBody rest _ hd'
    simp only [lexTok] at h
    by_cases hn : startsNum c rest = true
    · rw [if_pos hn] at h                         -- a literal
      split at h
      · cases h
      · split at h <;> cases h
        · exact ⟨fun hm => hrest ((List.dropWhile_sublist _).subset ((List.dropWhile_sublist _).subset hm)),
            dotsOK_dropWhile_letters _ hnum⟩        -- with a magnitude suffix
        · exact ⟨fun hm => hrest ((List.dropWhile_sublist _).subset hm), hnum⟩
    · have hdc : isDigit c = false := by
        cases hdc : isDigit c with
        | false => rfl
        | true => exact absurd (by rw [startsNum, hdc]; rfl) hn
      rw [if_neg hn] at h
      rw [hdc] at hd'
      by_cases hl : isAsciiLetter c = true
      · rw [if_pos hl] at h                       -- a word
        cases h
        exact ⟨fun hm => hrest ((List.dropWhile_sublist _).subset hm), dotsOK_dropWhile_letters _ hd'⟩
      · rw [if_neg hl] at h                       -- an operator character
        split at h <;> cases h
        exact ⟨hrest, hd'⟩

theorem lexTok_comma (thou thou' : String) (ht : thou = "." ∨ thou = "") (ht' : thou' = "," ∨ thou' = "")
    {c : Char} (hcd : c ≠ '.') {rest : List Char} (hc : ',' ∉ c :: rest) :
    (lexTok "," thou (c :: toComma rest) : Option (Tok F × List Char)) =
      (lexTok "." thou' (c :: rest)).map fun p => (p.1, toComma p.2) := by
  have hread : (readLiteral "," thou (c :: toComma (rest.takeWhile isNumBody)) : Option F) =
      readLiteral "." thou' (c :: rest.takeWhile isNumBody) := by
    rw [show c :: toComma (rest.takeWhile isNumBody) = toComma (c :: rest.takeWhile isNumBody) by simp [toComma, swapDot, hcd]]
    exact readLiteral_comma thou thou' ht ht' _ fun hm => hc (List.cons_subset_cons c (List.takeWhile_subset _) hm)
  simp only [lexTok, startsNum_toComma, takeWhile_toComma isNumBody (by decide), dropWhile_toComma isNumBody (by decide),
    takeWhile_toComma isAsciiLetter (by decide), dropWhile_toComma isAsciiLetter (by decide), toComma_letters, hread,
    apply_ite (Option.map _), Option.map_some, Option.map_none]
  -- both sides now take the same branch at every test; only under the `match`es of a literal `map` is still outside
  refine ite_congr rfl (fun _ => ?_) fun _ => rfl
  cases (readLiteral "." thou' _ : Option F) with
  | none => rfl
  | some v => cases notationMul _ <;> rfl

/-- the text rewritten for decimal ',' lexes to the tokens the original lexes to under decimal '.' -/
theorem codeLex_comma (thou thou' : String) (ht : thou = "." ∨ thou = "") (ht' : thou' = "," ∨ thou' = "") :
    ∀ (fuel : Nat) (s : List Char), ',' ∉ s → dotsOK false s = true →
      (codeLex "," thou fuel (toComma s) : Option (List (Tok F))) = codeLex "." thou' fuel s := by
  intro fuel
  induction fuel with
  | zero => intro s _ _; rfl
  | succ n ih =>
    intro s hc hd
    cases s with
    | nil => rfl
    | cons c rest =>
      have hcd : c ≠ '.' := by rintro rfl; simp [dotsOK] at hd
      rw [show toComma (c :: rest) = c :: toComma rest by simp [toComma, swapDot, hcd], codeLex_cons, codeLex_cons]
      split
      next hsp =>
        exact ih rest (fun e => hc (List.mem_cons_of_mem _ e)) (by simpa [dotsOK, hsp, isDigit_not_space] using hd)
      · rw [lexTok_comma thou thou' ht ht' hcd hc]
        cases hl : (lexTok "." thou' (c :: rest) : Option (Tok F × List Char)) with
        | none => simp only [Option.map_none, Option.bind_none]   -- not `rfl`: the kernel would first compare the two continuations
        | some p =>
          obtain ⟨hrc, hrd⟩ := lexTok_rest hl hc hd
          simp only [Option.map_some, Option.bind_some, ih p.2 hrc hrd]

theorem strReplace_dot_comma (s : List Char) : strReplace s ['.'] [','] = toComma s :=
  strReplace_char '.' ',' s

theorem toComma_length (s : List Char) : (toComma s).length = s.length := List.length_map _

/-- `SC.codeTextOK`, the test the driver evaluates on every code and amount of the C08 runs, is the hypothesis on a text -/
theorem codeTextOK_iff {code : String} {v : F} :
    codeTextOK code v = true ↔ ',' ∉ codeText code v ∧ dotsOK false (codeText code v) = true := by
  simp [codeTextOK]

/-- `execute_code` under decimal ',' (thousands '.' or none) computes what it computes under decimal '.'
    (thousands ',' or none), for every code and amount whose text has its dots inside numbers -/
theorem executeCode_comma (thou thou' : String) (ht : thou = "." ∨ thou = "") (ht' : thou' = "," ∨ thou' = "")
    (code : String) (v : F) (h : codeTextOK code v = true) :
    (executeCode "," thou code v : Option F) = executeCode "." thou' code v := by
  obtain ⟨hc, hd⟩ := codeTextOK_iff.mp h
  unfold executeCode
  show basicExecute "," thou (strReplace (codeText code v) ['.'] [',']) =
    basicExecute "." thou' (strReplace (codeText code v) ['.'] ['.'])
  rw [strReplace_dot_comma, strReplace_self]
  -- `basic_execute` sees the text only through its tokens
  unfold basicExecute
  rw [toComma_length, codeLex_comma thou thou' ht ht' _ _ hc hd]

/-- all four separator conventions of the property compute the same conversion step -/
theorem executeCode_sep (code : String) (v : F) (hc : ',' ∉ codeText code v) (hd : dotsOK false (codeText code v) = true) :
    (executeCode "," "." code v : Option F) = executeCode "." "" code v ∧
    (executeCode "," "" code v : Option F) = executeCode "." "" code v ∧
    (executeCode "." "," code v : Option F) = executeCode "." "" code v :=
  have h := codeTextOK_iff.mpr ⟨hc, hd⟩
  ⟨executeCode_comma "." "" (Or.inl rfl) (Or.inr rfl) code v h,
   executeCode_comma "" "" (Or.inr rfl) (Or.inr rfl) code v h,
   (executeCode_comma "." "," (Or.inl rfl) (Or.inl rfl) code v h).symm.trans
     (executeCode_comma "." "" (Or.inl rfl) (Or.inr rfl) code v h)⟩

omit [Num F] in
/-- the walk only ever runs the up/down code of an item it found in `items` -/
theorem calculateUnitWith.loop_congr {ex ex' : String → F → Option F} {items : List (UnitItem F)}
    (h : ∀ it ∈ items, ∀ w, ex it.up w = ex' it.up w ∧ ex it.down w = ex' it.down w) (tgt : Nat) (up : Bool) :
    ∀ (fuel : Nat) (v : F) (cur : UnitItem F) (search : Nat), cur ∈ items →
      calculateUnitWith.loop ex items tgt up fuel v cur search =
        calculateUnitWith.loop ex' items tgt up fuel v cur search := by
  intro fuel
  induction fuel with
  | zero => intro v cur search _; rfl
  | succ n ih =>
    intro v cur search hcur
    have hcode : ex (if up then cur.up else cur.down) v = ex' (if up then cur.up else cur.down) v := by
      cases up
      · exact (h cur hcur v).2
      · exact (h cur hcur v).1
    simp only [calculateUnitWith.loop, hcode]
    cases ex' (if up then cur.up else cur.down) v with
    | none => rfl
    | some v' =>
      cases hn : findItem? items search with
      | none => rfl
      | some next => simp only [ih v' next _ (List.mem_of_find?_eq_some hn)]

omit [Num F] in
theorem calculateUnitWith_congr (ex ex' : String → F → Option F) (items : List (UnitItem F))
    (h : ∀ it ∈ items, ∀ w, ex it.up w = ex' it.up w ∧ ex it.down w = ex' it.down w) (v : F) (src tgt : Nat) :
    calculateUnitWith ex items v src tgt = calculateUnitWith ex' items v src tgt := by
  unfold calculateUnitWith
  cases hf : findItem? items src with
  | none => rfl
  | some first => simp only [calculateUnitWith.loop_congr h _ _ _ _ _ _ (List.mem_of_find?_eq_some hf)]

/-- a conversion inside a family gives the same amount under all four separator conventions, provided the
    texts its steps build (code with the intermediate amount substituted) have their dots inside numbers -/
theorem calculateUnit_sep (thou thou' : String) (ht : thou = "." ∨ thou = "") (ht' : thou' = "," ∨ thou' = "")
    (items : List (UnitItem F))
    (hText : ∀ it ∈ items, ∀ w : F, (',' ∉ codeText it.up w ∧ dotsOK false (codeText it.up w) = true) ∧
      (',' ∉ codeText it.down w ∧ dotsOK false (codeText it.down w) = true))
    (v : F) (src tgt : Nat) :
    calculateUnit "," thou items v src tgt = calculateUnit "." thou' items v src tgt :=
  calculateUnitWith_congr _ _ items
    (fun it hit w => (hText it hit w).imp (executeCode_comma thou thou' ht ht' _ w ∘ codeTextOK_iff.mpr)
      (executeCode_comma thou thou' ht ht' _ w ∘ codeTextOK_iff.mpr))
    v src tgt

theorem assoc?_mem {α : Type} (l : List (String × α)) (k : String) (v : α) (h : assoc? l k = some v) : (k, v) ∈ l := by
  induction l with
  | nil => cases h
  | cons x rest ih =>
    unfold assoc? at h
    split at h
    next hk => cases h; cases hk; exact List.mem_cons_self
    · exact List.mem_cons_of_mem _ (ih h)

def CodesOK (c : Cfg F) : Prop :=
  (∀ g ∈ c.units, ∀ it ∈ g.2, ∀ w : F, (',' ∉ codeText it.up w ∧ dotsOK false (codeText it.up w) = true) ∧
      (',' ∉ codeText it.down w ∧ dotsOK false (codeText it.down w) = true)) ∧
  (∀ b ∈ c.bridges, ∀ w : F, (',' ∉ codeText b.toSource w ∧ dotsOK false (codeText b.toSource w) = true) ∧
      (',' ∉ codeText b.toTarget w ∧ dotsOK false (codeText b.toTarget w) = true))

omit [Num F] in
/-- conversion between any two units (inside a family or across a bridge) reads only the units and bridges
    of the configuration, and runs only codes configured there -/
theorem convertUnitWith_congr (ex ex' : String → F → Option F) (c c' : Cfg F)
    (hu : c.units = c'.units) (hbr : c.bridges = c'.bridges)
    (hi : ∀ g ∈ c'.units, ∀ it ∈ g.2, ∀ w, ex it.up w = ex' it.up w ∧ ex it.down w = ex' it.down w)
    (hb : ∀ b ∈ c'.bridges, ∀ w, ex b.toSource w = ex' b.toSource w ∧ ex b.toTarget w = ex' b.toTarget w)
    (v : F) (src : UnitRef) (target : String) :
    convertUnitWith ex c v src target = convertUnitWith ex' c' v src target := by
  have hcg : ∀ {k items}, assoc? c'.units k = some items → ∀ v a b,
      calculateUnitWith ex items v a b = calculateUnitWith ex' items v a b :=
    fun hk => calculateUnitWith_congr ex ex' _ (hi _ (assoc?_mem _ _ _ hk))
  unfold convertUnitWith
  rw [hu, hbr]
  -- split only where a membership fact is needed: the source family, the bridge, the family across the bridge;
  -- every other `match` is the same on both sides once the calls of `ex` below it are rewritten
  cases hg : assoc? c'.units src.group with
  | none => rfl
  | some group =>
    cases hbf : c'.bridges.find? (fun b => b.srcName = src.group || b.tgtName = src.group) with
    | none => simp only [hcg hg]
    | some b =>
      have hcode : ∀ w, ex (if b.srcName = src.group then b.toSource else b.toTarget) w =
          ex' (if b.srcName = src.group then b.toSource else b.toTarget) w := by
        intro w
        split
        · exact (hb b (List.mem_of_find?_eq_some hbf) w).1
        · exact (hb b (List.mem_of_find?_eq_some hbf) w).2
      simp only [hcg hg, hcode]
      cases hog : assoc? c'.units (if b.srcName = src.group then b.tgtName else b.srcName) with
      | none => rfl
      | some og => simp only [hcg hog]

/-- conversion between any two units gives the same amount and unit under the four separator conventions -/
theorem convertUnit_sep (c : Cfg F) (thou thou' : String) (ht : thou = "." ∨ thou = "") (ht' : thou' = "," ∨ thou' = "")
    (hok : CodesOK c) (v : F) (src : UnitRef) (target : String) :
    convertUnit { c with dec := ",", thou := thou } v src target = convertUnit { c with dec := ".", thou := thou' } v src target := by
  refine convertUnitWith_congr _ _ _ _ ?_ ?_ ?_ ?_ v src target
  · rfl
  · rfl
  · intro g hg it hit w
    exact (hok.1 g hg it hit w).imp (executeCode_comma thou thou' ht ht' _ w ∘ codeTextOK_iff.mpr)
      (executeCode_comma thou thou' ht ht' _ w ∘ codeTextOK_iff.mpr)
  · intro b hb w
    exact (hok.2 b hb w).imp (executeCode_comma thou thou' ht ht' _ w ∘ codeTextOK_iff.mpr)
      (executeCode_comma thou thou' ht ht' _ w ∘ codeTextOK_iff.mpr)

/-- the interpreter, unit conversions included, computes the same value under the four conventions -/
theorem exec_sep (c : Cfg F) (thou thou' : String) (ht : thou = "." ∨ thou = "") (ht' : thou' = "," ∨ thou' = "")
    (hok : CodesOK c) (vs : Vars F) (ast : Ast F) :
    exec { c with dec := ",", thou := thou } vs ast = exec { c with dec := ".", thou := thou' } vs ast := by
  unfold exec
  have hconv : convForCalc { c with dec := ",", thou := thou } = convForCalc { c with dec := ".", thou := thou' } := by
    funext self w other
    unfold convForCalc
    simp only [convertUnit_sep c thou thou' ht ht' hok]
  rw [hconv]

/-! non-vacuity: a conversion text as `execute_code` builds it -/
example : ',' ∉ "2.5 * 25.4".toList ∧ dotsOK false "2.5 * 25.4".toList = true := by decide
example : dotsOK false "2 * .5".toList = false := by decide

end SCP.C08Code
