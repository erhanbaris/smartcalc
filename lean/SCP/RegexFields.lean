/-
  SCP.RegexFields — data obligations on the regenerated time and zone expressions (re-decided by the
  kernel on every run): whatever the `hour`, `minute`, `second` groups of a time expression can
  capture is a number of at most 23 / 59 / 59 (at most 12 for the hour of an am/pm form), and the
  hour / minute groups of the GMT syntax at most 19 / 59.  These are the domains of
  `NaiveTime::from_hms` / `FixedOffset::east` the time parser feeds them into; an expression that
  accepts '24:00' (the seeded change C01-2, /verif/seeded) fails the obligation.  The language of a group is computed from the
  expression data (`Re.finiteLang`); that the matcher only captures words of that language is not
  proved here (the lexer model is tied to the code per line).
-/
import SC.Regex
import SC.Gen.Regexes
import SC.Types
namespace SCP.RegexFields
open SC

def timeRes : List NRe := (assoc? Gen.parseRegexes "time").getD []
def zoneRes : List NRe := (assoc? Gen.parseRegexes "timezone").getD []

theorem gen_time_fields_in_range :
    (timeRes.all fun r => r.groupAtMost "hour" 23 && r.groupAtMost "minute" 59 && r.groupAtMost "second" 59 &&
      ((r.names.any (·.1 = "meridiem")) → r.groupAtMost "hour" 12)) = true := by decide +kernel

theorem gen_zone_fields_in_range :
    (zoneRes.all fun r => r.groupAtMost "timezone_hour" 19 && r.groupAtMost "timezone_minute" 59) = true := by decide +kernel

/-- the obligation is about something: the expressions exist and have the groups -/
example : timeRes.length = 5 ∧ (timeRes.all fun r => r.names.any (·.1 = "hour")) = true := by decide +kernel

end SCP.RegexFields
