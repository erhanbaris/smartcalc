/-
  SCP.LexerLang — at the tokenizer level too, a language is nothing but its tables: two language
  tags whose month expressions, alias words, constant words and word groups are the same give the
  same token infos and the same highlight requests for every line (the tag itself is never
  inspected).  Extends `SCP.C19.evalInfos_lang` to the layer in front of it.
-/
import SC.Lexer
namespace SCP.LexerLang
open SC
variable {F : Type} [Num F]

def SameLexTables (env : LexEnv) (c : Cfg F) (l1 l2 : String) : Prop :=
  assoc? env.months l1 = assoc? env.months l2 ∧
  assoc? env.langAlias l1 = assoc? env.langAlias l2 ∧
  (∀ w, constantOf c l1 w = constantOf c l2 w) ∧
  (∀ g, ((c.lang? l1).bind fun l => assoc? l.groups g) = ((c.lang? l2).bind fun l => assoc? l.groups g))

/-- the tag reaches the tokenizers in four places: the month table, the alias table, `constantOf` and the word groups of `fieldType` -/
theorem lexFull_lang (env : LexEnv) (c : Cfg F) (l1 l2 : String) (h : SameLexTables env c l1 l2) :
    lexFull env c l1 = lexFull env c l2 := by
  have hf : fieldType env c l1 = fieldType env c l2 := by funext k n e; unfold fieldType; rw [h.2.2.2]
  have hc : constantOf c l1 = constantOf c l2 := funext h.2.2.1
  have hfp : fieldParser env c l1 = fieldParser env c l2 := by funext b res st; unfold fieldParser; rw [hf]
  have htp : textParser env c l1 = textParser env c l2 := by funext now b res st; unfold textParser; rw [hc]
  have hrun : runParser env c l1 = runParser env c l2 := by funext now b key st; simp only [runParser, hfp, htp]
  have hreg : regexTokinizer env c l1 = regexTokinizer env c l2 := by funext now b st; simp only [regexTokinizer, hrun]
  have hmon : monthParser (F := F) env l1 = monthParser env l2 := by funext b st; unfold monthParser; rw [h.1]
  have hlang : languageTokinizer (F := F) env l1 = languageTokinizer env l2 := by funext b st; simp only [languageTokinizer, hmon]
  have hali : aliasTokinizer env c l1 = aliasTokinizer env c l2 := by funext now st; unfold aliasTokinizer; rw [h.2.1]
  funext now line
  simp only [lexFull, hlang, hreg, hali]

/-- tokens and highlight requests of a line depend on the language only through its tables -/
theorem lexText_lang (env : LexEnv) (c : Cfg F) (l1 l2 : String) (h : SameLexTables env c l1 l2) (now : Now) (line : List Char) :
    lexText env c l1 now line = lexText env c l2 now line ∧ lexUi env c l1 now line = lexUi env c l2 now line := by
  unfold lexText lexUi
  rw [lexFull_lang env c l1 l2 h]
  exact ⟨rfl, rfl⟩

end SCP.LexerLang
