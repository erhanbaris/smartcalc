/-
  SCP.RegexFuel — the fuel of `addThreads`, the ε-closure of the regex simulation, is never the reason a thread is lost
  (the fuels of `findLoop` and of `Re.all` have no theorem).

  `addThreads` follows the instructions that consume no character, with an explicit stack and a
  `seen` flag per program counter.  Measure: 3 · (program counters not yet seen) + stack height.
  Every step lowers it (a seen / out-of-range entry is popped: −1; a new one is marked and pushes
  at most two: −3 + 1).  Hence beyond that many steps more fuel changes nothing
  (`addThreads_stable`), and the fuel the model passes (`4 · size + 8`, one entry on the stack,
  `seen` of the program's size) is always enough (`addThreads_model_fuel`).
-/
import SC.Regex
namespace SCP.RegexFuel
open SC

def mu (stack : List (Nat × Slots)) (seen : Array Bool) : Nat := 3 * seen.count false + stack.length

theorem count_mark (seen : Array Bool) (pc : Nat) (h : pc < seen.size) (hns : seen[pc]! = false) :
    (seen.set! pc true).count false + 1 = seen.count false := by
  rw [getElem!_pos seen pc h] at hns
  rw [Array.set!_eq_setIfInBounds, Array.setIfInBounds, dif_pos h, Array.count_set h, hns]
  -- the entry was `false` and is `true` now: `count - 1 + 0 + 1 = count`, and there is a `false` to take away
  exact Nat.sub_add_cancel (Array.count_pos_iff.mpr (hns ▸ Array.getElem_mem h))

theorem addThreads_stable (T : UTables) (cs : Array Char) (prog : Array Inst) (pos : Nat) :
    ∀ (fuel : Nat) (stack : List (Nat × Slots)) (seen : Array Bool) (acc : Array Thread) (k : Nat),
      seen.size = prog.size → mu stack seen < fuel →
      addThreads T cs prog pos (fuel + k) stack seen acc = addThreads T cs prog pos fuel stack seen acc := by
  intro fuel
  induction fuel with
  | zero => intro _ _ _ _ _ h; cases h                        -- no measure is below 0
  | succ n ih =>
    intro stack seen acc k hsz h
    rw [Nat.add_right_comm]
    cases stack with
    | nil => rfl
    | cons top rest =>
      obtain ⟨pc, sl⟩ := top
      unfold addThreads
      -- both sides test the same entry
      refine ite_congr rfl (fun _ => ?_) (fun hskip => ?_)
      · exact ih rest seen acc k hsz (Nat.lt_of_succ_lt_succ h)   -- seen or out of range: popped, the stack is one shorter
      · simp only [Bool.or_eq_true, decide_eq_true_eq, not_or, Nat.not_le, Bool.not_eq_true, ← hsz] at hskip
        have hun := count_mark seen pc hskip.1 hskip.2
        -- whatever is pushed (at most two entries), the measure has gone down
        have hrec (st acc') (hst : st.length ≤ rest.length + 2) := ih st (seen.set! pc true) acc' k (by simp [hsz]) <| by
          simp only [mu, List.length_cons] at h ⊢
          omega
        cases prog[pc]! with
        | wordb => exact ite_congr rfl (fun _ => hrec _ _ (by simp)) (fun _ => hrec _ _ (by simp))
        | _ => exact hrec _ _ (by simp)

theorem addThreads_model_fuel (T : UTables) (cs : Array Char) (prog : Array Inst) (pos : Nat)
    (start : Nat × Slots) (seen : Array Bool) (acc : Array Thread) (hsz : seen.size = prog.size) (k : Nat) :
    addThreads T cs prog pos (4 * prog.size + 8 + k) [start] seen acc = addThreads T cs prog pos (4 * prog.size + 8) [start] seen acc := by
  apply addThreads_stable T cs prog pos _ _ _ _ _ hsz
  have := Array.count_le_size (a := false) (xs := seen)
  simp only [mu, List.length_cons, List.length_nil]
  omega

end SCP.RegexFuel
