/-
  SCP.C17 — Highlight (UI) tokens are well-formed character spans.

  Invariants of the model of `UiTokenCollection` (SC/Ui.lean) along the operation sequences the
  pipeline performs — adds (`add_from_byte_range`), `sort`, then `update_tokens` — for arbitrary
  byte spans (no regex semantics needed): `WF` (every token has `start < end ≤ number of characters`, tokens pairwise
  disjoint) is kept by every step (by `update_tokens` on an ordered collection), `Ordered` (by start, never overlapping) is established by `sort` and kept by
  `update_tokens`; `pipeline_ordered` is the statement for `adds ; sort ; updates`, which is what the tokenizer does on
  every line.  Positions are CHARACTER positions (`pos_boundary`).

  The code before the repairs violated the invariant (`old_collision_witness`: the former
  collision test accepted a span that contains a stored token).
-/
import SC.Ui
namespace SCP.C17
open SC

theorem charMapFrom_eq (k : Nat) (cs : List Char) :
    charMapFrom k cs = (cs.zipIdx k).flatMap fun p => List.replicate p.1.utf8Size p.2 := by
  induction cs generalizing k with
  | nil => rfl
  | cons c cs ih => rw [charMapFrom, ih, List.zipIdx_cons, List.flatMap_cons]

theorem mem_charMapFrom (k : Nat) (cs : List Char) : ∀ p ∈ charMapFrom k cs, k ≤ p ∧ p < k + cs.length := by
  intro p hp
  obtain ⟨⟨c, i⟩, hi, hp⟩ := List.mem_flatMap.1 (charMapFrom_eq k cs ▸ hp)
  obtain rfl := (List.mem_replicate.1 hp).2
  exact ⟨(List.mem_zipIdx hi).1, (List.mem_zipIdx hi).2.1⟩

theorem charMapFrom_length (k : Nat) (cs : List Char) : (charMapFrom k cs).length = (cs.map Char.utf8Size).sum := by
  rw [charMapFrom_eq, List.length_flatMap, ← List.zipIdx_map_fst k cs, List.map_map]
  simp [Function.comp_def]

theorem charMapFrom_append (k : Nat) (as bs : List Char) :
    charMapFrom k (as ++ bs) = charMapFrom k as ++ charMapFrom (k + as.length) bs := by
  simp only [charMapFrom_eq, List.zipIdx_append, List.flatMap_append]

/-- the code's character count (last map entry + 1), for a map that starts counting at `k`; written with `getLast?` / `getD`
    as `UiColl.nchars` has it -/
theorem getLast_charMapFrom (k : Nat) (cs : List Char) :
    ((charMapFrom k cs).getLast?.map (· + 1)).getD k = k + cs.length := by
  rcases List.eq_nil_or_concat cs with rfl | ⟨init, c, rfl⟩
  · rfl
  · simp [charMapFrom_append, charMapFrom, List.getLast?_replicate, Nat.ne_of_gt c.utf8Size_pos, Nat.add_assoc]

theorem nchars_new (line : List Char) : (UiColl.new line).nchars = line.length := by
  rw [← Nat.zero_add line.length, ← getLast_charMapFrom 0 line]
  unfold UiColl.nchars UiColl.new
  cases (charMapFrom 0 line).getLast? <;> rfl

/-- the state of a collection created for `line`: the map never changes -/
def OfLine (line : List Char) (c : UiColl) : Prop := c.charSizes = (UiColl.new line).charSizes

theorem OfLine.pos_le {line : List Char} {c : UiColl} (h : OfLine line c) (i : Nat) : c.pos i ≤ line.length := by
  unfold UiColl.pos UiColl.nchars
  rw [h]
  split
  next p hp =>                                  -- a byte of the line: an entry of the map
    have := mem_charMapFrom 0 line p (List.mem_of_getElem? hp)
    omega
  · split
    · exact Nat.le_of_eq (nchars_new line)      -- the end of the line
    · exact Nat.zero_le _                       -- anything else

theorem pos_le_nchars (line : List Char) (toks : List UiTok) (i : Nat) :
    ({ UiColl.new line with toks := toks } : UiColl).pos i ≤ line.length :=
  OfLine.pos_le (line := line) rfl i

def byteOffset (cs : List Char) (k : Nat) : Nat := ((cs.take k).map Char.utf8Size).sum

theorem charMapFrom_boundary (base : Nat) (cs : List Char) (k : Nat) (hk : k < cs.length) :
    (charMapFrom base cs)[byteOffset cs k]? = some (base + k) := by
  -- the map is that of the first `k` characters, which has `byteOffset cs k` entries, then `base + k` once per byte of
  -- `cs[k]` (at least once), then the rest: the entry asked for is the first behind the prefix
  have h := charMapFrom_append base (cs.take k) (cs.drop k)
  rw [List.take_append_drop, List.drop_eq_getElem_cons hk, charMapFrom] at h
  rw [h, byteOffset, ← charMapFrom_length base, List.getElem?_append_right (Nat.le_refl _), Nat.sub_self,
    List.getElem?_append_left (by simp [cs[k].utf8Size_pos]), List.length_take_of_le (Nat.le_of_lt hk)]
  simp [cs[k].utf8Size_pos]

/-- positions are character positions: the byte offset of the k-th character maps to k, and the
    end of the line (k = number of characters) to the number of characters -/
theorem pos_boundary (line : List Char) (k : Nat) (hk : k ≤ line.length) :
    (UiColl.new line).pos (byteOffset line k) = k := by
  rcases Nat.lt_or_eq_of_le hk with hlt | rfl
  · unfold UiColl.pos UiColl.new                -- a character of the line: its entry in the map
    simp only [charMapFrom_boundary 0 line k hlt]
    exact Nat.zero_add k
  · have hlen : (UiColl.new line).charSizes.length = byteOffset line line.length := by   -- the end of the line: one past the map
      simp [UiColl.new, charMapFrom_length, byteOffset]
    unfold UiColl.pos
    rw [← hlen, List.getElem?_eq_none (Nat.le_refl _)]
    simp only [if_true]
    exact nchars_new line

def WF (n : Nat) (toks : List UiTok) : Prop :=
  (∀ t ∈ toks, t.start < t.stop ∧ t.stop ≤ n) ∧ toks.Pairwise (fun a b => a.stop ≤ b.start ∨ b.stop ≤ a.start)

def Ordered (toks : List UiTok) : Prop := toks.Pairwise (fun a b => a.stop ≤ b.start)

theorem free_spec (c : UiColl) (s e : Nat) (h : c.free s e = true) : ∀ t ∈ c.toks, t.stop ≤ s ∨ e ≤ t.start := by
  intro t ht
  have := List.all_eq_true.mp h t ht
  simp only [Bool.not_eq_true', Bool.and_eq_false_iff, decide_eq_false_iff_not] at this
  omega

theorem add_wf (c : UiColl) (n s e : Nat) (k : String) (h : WF n c.toks) (he : e ≤ n) : WF n (c.add s e k).toks := by
  unfold UiColl.add
  split
  next hc =>   -- not empty and free: appended, and `free_spec` keeps it apart from the tokens that are there
    exact ⟨List.forall_mem_append.mpr ⟨h.1, List.forall_mem_singleton.mpr ⟨hc.1, he⟩⟩,
      List.pairwise_append.mpr ⟨h.2, List.pairwise_singleton .., fun a ha =>
        List.forall_mem_singleton.mpr (free_spec c s e hc.2 a ha)⟩⟩
  next => exact h   -- refused

theorem sort_wf (n : Nat) (toks : List UiTok) (h : WF n toks) :
    WF n (toks.mergeSort (fun a b => decide (a.start ≤ b.start))) := by
  have hp := List.mergeSort_perm toks (fun a b => decide (a.start ≤ b.start))
  refine ⟨fun t ht => h.1 t (hp.mem_iff.mp ht), ?_⟩
  exact (hp.pairwise_iff (fun {a b} (hab : a.stop ≤ b.start ∨ b.stop ≤ a.start) => Or.symm hab)).mpr h.2

/-- (`n` is there for `WF` only) -/
theorem sort_ordered (n : Nat) (toks : List UiTok) (h : WF n toks) :
    Ordered (toks.mergeSort (fun a b => decide (a.start ≤ b.start))) := by
  have hs := List.pairwise_mergeSort (le := fun (a b : UiTok) => decide (a.start ≤ b.start))
    (fun a b c hab hbc => by simp only [decide_eq_true_eq] at *; omega)
    (fun a b => by simp only [Bool.or_eq_true, decide_eq_true_eq]; omega) toks
  have hw := sort_wf n toks h
  -- sorted by start and disjoint, the second token not empty: the first ends before the second starts
  refine (hs.and hw.2).imp_of_mem fun _ hb ⟨h1, h2⟩ => ?_
  have := (hw.1 _ hb).1
  simp only [decide_eq_true_eq] at h1
  omega

/-- `update_tokens` leaves the collection alone, or replaces the tokens `i … i + off` by one -/
theorem update_cases (c : UiColl) (ps pe : Nat) (k : String) :
    c.update ps pe k = c ∨ ∃ i off, c.pos ps < c.pos pe ∧
      c.toks.findIdx? (fun t => t.start = c.pos ps) = some i ∧ (c.toks.drop i).findIdx? (fun t => t.stop = c.pos pe) = some off ∧
      c.update ps pe k = { c with toks := c.toks.take i ++ [⟨c.pos ps, c.pos pe, k⟩] ++ c.toks.drop (i + off + 1) } := by
  unfold UiColl.update
  dsimp only
  split
  · exact .inl rfl                -- empty span
  split
  · exact .inl rfl                -- no token starts at the start position
  next i hi =>
    split
    · exact .inl rfl              -- none from there on stops at the end position
    next off hoff => exact .inr ⟨i, off, by omega, hi, hoff, rfl⟩

/-- of the collection it only needs that the end position lies in the line -/
theorem update_ordered (c : UiColl) (n ps pe : Nat) (k : String) (hn : c.pos pe ≤ n) (hw : WF n c.toks) (ho : Ordered c.toks) :
    WF n (c.update ps pe k).toks ∧ Ordered (c.update ps pe k).toks := by
  obtain h | ⟨i, off, hlt, hi, hoff, h⟩ := update_cases c ps pe k <;> rw [h]
  · exact ⟨hw, ho⟩
  -- the merged range: token `i` starts at the new start, token `i + off` stops at the new end
  obtain ⟨hi_lt, hi_start, -⟩ := List.findIdx?_eq_some_iff_getElem.mp hi
  obtain ⟨hoff_lt, hoff_stop, -⟩ := List.findIdx?_eq_some_iff_getElem.mp hoff
  simp only [decide_eq_true_eq, List.getElem_drop] at hi_start hoff_stop
  rw [List.length_drop] at hoff_lt
  have hpre : ∀ x ∈ c.toks.take i, x.stop ≤ c.pos ps := fun x hx =>
    hi_start ▸ ho.rel_of_mem_take_of_mem_drop hx (List.mem_drop_iff_getElem.mpr ⟨0, by omega, rfl⟩)
  have hpost : ∀ y ∈ c.toks.drop (i + off + 1), c.pos pe ≤ y.start := fun y hy =>
    hoff_stop ▸ ho.rel_of_mem_take_of_mem_drop (List.mem_take_iff_getElem.mpr ⟨i + off, by omega, rfl⟩) hy
  have hord : Ordered (c.toks.take i ++ [⟨c.pos ps, c.pos pe, k⟩] ++ c.toks.drop (i + off + 1)) := by
    rw [List.append_assoc, List.singleton_append]
    refine List.pairwise_append.mpr ⟨ho.sublist (List.take_sublist ..),
      List.pairwise_cons.mpr ⟨hpost, ho.sublist (List.drop_sublist ..)⟩, fun a ha b hb => ?_⟩
    rcases List.mem_cons.mp hb with rfl | hb
    · exact hpre a ha
    · exact Nat.le_trans (hpre a ha) (Nat.le_trans (Nat.le_of_lt hlt) (hpost b hb))
  refine ⟨⟨?_, hord.imp .inl⟩, hord⟩
  simp only [List.forall_mem_append, List.forall_mem_singleton]
  exact ⟨⟨fun t ht => hw.1 t (List.mem_of_mem_take ht), hlt, hn⟩, fun t ht => hw.1 t (List.mem_of_mem_drop ht)⟩

theorem update_inv (line : List Char) (toks : List UiTok) (ps pe : Nat) (k : String)
    (hw : WF line.length toks) (ho : Ordered toks) :
    WF line.length (({ UiColl.new line with toks := toks } : UiColl).update ps pe k).toks ∧
    Ordered (({ UiColl.new line with toks := toks } : UiColl).update ps pe k).toks :=
  update_ordered _ _ ps pe k (pos_le_nchars line toks pe) hw ho

/-- only `range` adds (the pipeline's adds all come from regex matches, i.e. byte spans) -/
def Pipeline : UiOp → Prop
  | .add _ _ _ => False
  | _ => True

theorem step_charSizes (c : UiColl) (op : UiOp) : (c.step op).charSizes = c.charSizes := by
  cases op with
  | add s e k => simp only [UiColl.step, UiColl.add]; split <;> rfl
  | range bs be k => simp only [UiColl.step, UiColl.addRange, UiColl.add]; split <;> rfl
  | sort => rfl
  | update ps pe k => obtain h | ⟨_, _, _, _, _, h⟩ := update_cases c ps pe k <;> simp only [UiColl.step, h]

theorem step_ofLine (line : List Char) (c : UiColl) (op : UiOp) (h : OfLine line c) : OfLine line (c.step op) :=
  (step_charSizes c op).trans h

/-- every pipeline operation keeps well-formedness; `update_tokens` is only asked to on an ordered collection -/
theorem step_wf (line : List Char) (c : UiColl) (op : UiOp) (hl : OfLine line c) (hp : Pipeline op)
    (hw : WF line.length c.toks) (ho : Ordered c.toks ∨ (∀ ps pe k, op ≠ .update ps pe k)) :
    WF line.length (c.step op).toks := by
  cases op with
  | add s e k => exact absurd hp id
  | range bs be k => exact add_wf c _ _ _ k hw (hl.pos_le be)
  | sort => exact sort_wf _ _ hw
  | update ps pe k => exact (update_ordered c _ ps pe k (hl.pos_le pe) hw (ho.resolve_right fun h => h ps pe k rfl)).1

theorem run_induction {I : UiColl → Prop} {c : UiColl} {ops : List UiOp} (h0 : I c)
    (hstep : ∀ c, I c → ∀ op ∈ ops, I (c.step op)) : I (c.run ops) :=
  List.foldlRecOn ops UiColl.step h0 hstep

/-- `adds ; sort ; updates` — what the tokenizer does with the collection of a line: the final
    tokens are inside the line, non-empty, ordered by start and never overlap -/
theorem pipeline_ordered (line : List Char) (adds : List (Nat × Nat × String)) (updates : List (Nat × Nat × String)) :
    let c := ((UiColl.new line).run (adds.map fun a => .range a.1 a.2.1 a.2.2)).sort.run (updates.map fun u => .update u.1 u.2.1 u.2.2)
    WF line.length c.toks ∧ Ordered c.toks := by
  -- after the adds: still the collection of `line`, and well-formed
  have hadds := run_induction (I := fun c => OfLine line c ∧ WF line.length c.toks) (c := UiColl.new line)
    (ops := adds.map fun a => .range a.1 a.2.1 a.2.2) ⟨rfl, nofun, .nil⟩ fun c ⟨hl, hw⟩ op hop => by
      obtain ⟨a, -, rfl⟩ := List.mem_map.mp hop
      exact ⟨step_ofLine line c _ hl, add_wf c _ _ _ _ hw (hl.pos_le _)⟩
  -- the sort orders them, and every update keeps all three
  have hupd := run_induction (I := fun c => OfLine line c ∧ WF line.length c.toks ∧ Ordered c.toks)
    (ops := updates.map fun u => .update u.1 u.2.1 u.2.2)
    ⟨step_ofLine line _ .sort hadds.1, sort_wf _ _ hadds.2, sort_ordered _ _ hadds.2⟩ fun c ⟨hl, hw, ho⟩ op hop => by
      obtain ⟨u, -, rfl⟩ := List.mem_map.mp hop
      exact ⟨step_ofLine line c _ hl, update_ordered c _ _ _ _ (hl.pos_le _) hw ho⟩
  exact hupd.2

theorem ordered_consecutive (toks : List UiTok) (h : Ordered toks) (n : Nat) (hw : WF n toks) (i : Nat) (hi : i + 1 < toks.length) :
    toks[i].stop ≤ toks[i + 1].start ∧ toks[i].start < toks[i + 1].start := by
  have := List.pairwise_iff_getElem.mp h i (i + 1) (by omega) hi (by omega)
  have h1 := (hw.1 _ (List.getElem_mem (Nat.lt_of_succ_lt hi))).1
  exact ⟨this, by omega⟩

/-- the collision test before the repair (`(a.start ≤ s ∧ a.end > s) ∨ (a.start < e ∧ a.end ≥ e)`)
    accepted a span that strictly contains a stored token: nested tokens -/
def oldFree (toks : List UiTok) (s e : Nat) : Bool :=
  toks.all fun t => !((decide (t.start ≤ s) && decide (t.stop > s)) || (decide (t.start < e) && decide (t.stop ≥ e)))

theorem old_collision_witness : oldFree [⟨3, 5, "Number"⟩] 0 10 = true ∧
    ({ toks := [⟨3, 5, "Number"⟩] } : UiColl).free 0 10 = false := by decide

example : ((UiColl.new ['ğ', ' ', '1', '+', '2']).run [.range 3 4 "Number", .range 0 2 "Text", .range 4 5 "Operator", .range 5 6 "Number",
    .range 3 5 "Text"]).toks = [⟨2, 3, "Number"⟩, ⟨0, 1, "Text"⟩, ⟨3, 4, "Operator"⟩, ⟨4, 5, "Number"⟩] := by decide +kernel
example : (({ UiColl.new ['a', ' ', 'b', ' ', 'c'] with toks := [⟨0, 1, "Text"⟩, ⟨2, 3, "Text"⟩, ⟨4, 5, "Text"⟩] } : UiColl).update 0 3 "VariableUse").toks =
    [⟨0, 3, "VariableUse"⟩, ⟨4, 5, "Text"⟩] := by decide +kernel

end SCP.C17
