/-
  SCP.LexerUi — the highlight tokens of a line, from its TEXT: whatever the regular expressions
  of the configuration are and whatever spans they report, the collection the model's
  tokenizers build (`SC.lexUi`: every `add_uitoken_from_match` of the eleven parsers and of the
  month parser, then `sort`), followed by any sequence of span merges (`update_tokens`, which is
  what variables, unit literals and rules do afterwards), consists of non-empty character spans
  inside the line, ordered by start, no two overlapping.

  This instantiates `SCP.C17.pipeline_ordered` (which quantifies over all request lists) with the
  requests the lexer model actually makes; the requests themselves are compared with the
  implementation's operation log on every line of the C17 run (driver op `lexui`).
-/
import SC.Lexer
import SCP.C17
namespace SCP.LexerUi
open SC SCP.C17
variable {F : Type} [Num F]

theorem lexer_highlight_wf (env : LexEnv) (c : Cfg F) (lang : String) (now : Now) (line : List Char) (ui : UiColl)
    (h : lexUi env c lang now line = some ui) (updates : List (Nat × Nat × String)) :
    WF line.length (ui.run (updates.map fun u => .update u.1 u.2.1 u.2.2)).toks ∧
      Ordered (ui.run (updates.map fun u => .update u.1 u.2.1 u.2.2)).toks := by
  obtain ⟨r, -, rfl⟩ := Option.map_eq_some_iff.mp h
  exact pipeline_ordered line r.2 updates

/-- the token infos and the highlight requests come from one run of the tokenizers -/
theorem lexText_eq (env : LexEnv) (c : Cfg F) (lang : String) (now : Now) (line : List Char) :
    lexText env c lang now line = (lexFull env c lang now line).map (·.1) := rfl

end SCP.LexerUi
