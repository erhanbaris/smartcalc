/-
  SCP.Calendar — the proleptic Gregorian calendar of SC.Chrono is a bijection between day
  numbers and valid civil dates (used by C09, C14).  No bound on the year.
  The arithmetic, and why the proofs `clear` so much in front of `lia`, is in SCP.Lemmas.Calendar.
-/
import SC.Chrono
import SCP.Lemmas.Calendar
namespace SCP.Calendar
open SC

/-- without chrono's year range -/
def Valid (t : YMD) : Prop := 1 ≤ t.m ∧ t.m ≤ 12 ∧ 1 ≤ t.d ∧ t.d ≤ daysInMonth t.y t.m

/-- `civilFromDays n` is a valid date, and its day number is `n`; the variables are the intermediate values of
    `civilFromDays` -/
theorem civil_spec (n era doe yoe doy mp d m : Int)
    (h1 : era = (n + 719468) / 146097) (h2 : doe = n + 719468 - era * 146097)
    (h3 : yoe = (doe - doe / 1460 + doe / 36524 - doe / 146096) / 365)
    (h4 : doy = doe - (365 * yoe + yoe / 4 - yoe / 100))
    (h5 : mp = (5 * doy + 2) / 153) (h6 : d = doy - (153 * mp + 2) / 5 + 1)
    (h7 : m = if mp < 10 then mp + 3 else mp - 9) :
    Valid (civilFromDays n) ∧ dayNumber (civilFromDays n) = n := by
  have hciv : civilFromDays n = ⟨if m ≤ 2 then yoe + era * 400 + 1 else yoe + era * 400, m.toNat, d.toNat⟩ := by
    subst h1 h2 h3 h4 h5 h6 h7; rfl
  rw [hciv]
  clear hciv
  -- day `doe` of the era is day `doy` of the year `yoe`, a day of the month `mp`
  obtain ⟨hdoe0, hdoe1, hn⟩ : 0 ≤ doe ∧ doe ≤ 146096 ∧ n = doe + 146097 * era - 719468 := by
    clear h3 h4 h5 h6 h7; lia
  clear h1 h2
  obtain ⟨hdoe, hdoy0, hdoy1, hyr⟩ := civil_year doe yoe doy hdoe0 hdoe1 h3 h4
  obtain ⟨hm0, hm11, hmlo, hmhi⟩ := civil_month doy mp hdoy0 hdoy1 h5
  clear h3 h4 h5 hdoe0 hdoe1 hdoy0 hdoy1
  -- the same in the year `y` counted through all eras
  have e0 := marchDays_add_era yoe era
  have e1 := marchDays_add_era (yoe + 1) era
  rw [Int.add_right_comm] at e1
  rw [Int.mul_comm era 400]
  generalize yoe + 400 * era = y at *
  obtain ⟨hn, hyr⟩ : n = marchDays y + doy - 719468 ∧ marchDays y + doy < marchDays (y + 1) := by
    clear h6 h7 hmlo hmhi; lia
  clear e0 e1 hdoe
  -- the civil year `Y` and month
  generalize hY : (if m ≤ 2 then y + 1 else y) = Y
  obtain ⟨hk1, hk12, hy, hmp⟩ : 1 ≤ m.toNat ∧ m.toNat ≤ 12 ∧ y = (if m.toNat ≤ 2 then Y - 1 else Y) ∧
      mp = ((m.toNat : Int) + 9) % 12 := by
    clear hn hyr h6 hmlo hmhi; lia
  clear h7 hY
  show (1 ≤ m.toNat ∧ m.toNat ≤ 12 ∧ 1 ≤ d.toNat ∧ d.toNat ≤ daysInMonth Y m.toNat) ∧ _
  refine ⟨⟨hk1, hk12, by clear hy hmp hn hyr; lia, ?_⟩, ?_⟩
  · have := daysInMonth_eq Y m.toNat y mp hk1 hk12 hy hmp
    clear hy hmp hn
    lia
  · rw [dayNumber_eq Y m.toNat d.toNat y mp hy hmp]
    clear hy hmp hmhi hyr
    lia

theorem dayNumber_civilFromDays (n : Int) : dayNumber (civilFromDays n) = n :=
  (civil_spec n _ _ _ _ _ _ _ rfl rfl rfl rfl rfl rfl rfl).2

theorem civilFromDays_valid (n : Int) : Valid (civilFromDays n) :=
  (civil_spec n _ _ _ _ _ _ _ rfl rfl rfl rfl rfl rfl rfl).1

def Lex (a b : YMD) : Prop :=
  a.y < b.y ∨ (a.y = b.y ∧ (a.m < b.m ∨ (a.m = b.m ∧ a.d < b.d)))

theorem lex_trichotomy (a b : YMD) : Lex a b ∨ a = b ∨ Lex b a := by
  obtain ⟨ay, am, ad⟩ := a
  obtain ⟨byy, bm, bd⟩ := b
  simp only [Lex, YMD.mk.injEq]
  lia

/-- the shifted year and month are quotient and remainder of the months since March of year 0 -/
theorem march_index (Y : Int) (m : Nat) (y mp : Int) (hm12 : m ≤ 12)
    (hy : y = if m ≤ 2 then Y - 1 else Y) (hmp : mp = ((m : Int) + 9) % 12) :
    12 * y + mp = 12 * Y + m - 3 ∧ 0 ≤ mp ∧ mp ≤ 11 := by
  lia

theorem dayNumber_lt_of_lex (a b : YMD) (ha : Valid a) (hb : Valid b) (h : Lex a b) :
    dayNumber a < dayNumber b := by
  obtain ⟨hm1, hm12, -, hd⟩ := ha
  obtain ⟨hm1', hm12', hd1', -⟩ := hb
  have hdim := daysInMonth_eq a.y a.m _ _ hm1 hm12 rfl rfl
  obtain ⟨hi, hmp0, hmp11⟩ := march_index a.y a.m _ _ hm12 rfl rfl
  obtain ⟨hi', hmp0', hmp11'⟩ := march_index b.y b.m _ _ hm12' rfl rfl
  have ea : dayNumber a = _ := dayNumber_eq a.y a.m a.d _ _ rfl rfl
  have eb : dayNumber b = _ := dayNumber_eq b.y b.m b.d _ _ rfl rfl
  rw [ea, eb]
  clear ea eb
  generalize (if a.m ≤ 2 then a.y - 1 else a.y) = y, ((a.m : Int) + 9) % 12 = mp at *
  generalize (if b.m ≤ 2 then b.y - 1 else b.y) = y', ((b.m : Int) + 9) % 12 = mp' at *
  -- the order of the shifted years, months and days is that of the civil ones
  have hl : y < y' ∨ (y = y' ∧ (mp < mp' ∨ (mp = mp' ∧ (a.d : Int) < b.d))) := by
    unfold Lex at h; clear hdim hd; lia
  -- the day lies before the end of its month and of its year
  obtain ⟨hmon, hyr⟩ : (153 * mp + 2) / 5 + a.d ≤ (153 * (mp + 1) + 2) / 5 ∧
      marchDays y + ((153 * mp + 2) / 5 + a.d) ≤ marchDays (y + 1) := by
    clear h hl hi hi'; lia
  clear h hi hi' hdim hd hm1 hm12 hm1' hm12' hmp0 hmp11 hmp11'
  rcases hl with h | ⟨rfl, h | ⟨rfl, h⟩⟩
  · -- an earlier year
    have := marchDays_mono (y + 1) y' (by lia)
    clear hmon; lia
  · -- an earlier month of the year
    clear hyr; lia
  · lia

theorem civilFromDays_dayNumber (t : YMD) (h : Valid t) : civilFromDays (dayNumber t) = t := by
  have hv := civilFromDays_valid (dayNumber t)
  have he := dayNumber_civilFromDays (dayNumber t)
  rcases lex_trichotomy (civilFromDays (dayNumber t)) t with hl | heq | hl
  · have := dayNumber_lt_of_lex _ _ hv h hl; lia
  · exact heq
  · have := dayNumber_lt_of_lex _ _ h hv hl; lia

/-- the right side is `Lex a b` -/
theorem dayNumber_lt_iff (a b : YMD) (ha : Valid a) (hb : Valid b) :
    dayNumber a < dayNumber b ↔ (a.y < b.y ∨ (a.y = b.y ∧ (a.m < b.m ∨ (a.m = b.m ∧ a.d < b.d)))) := by
  constructor
  · intro hlt
    rcases lex_trichotomy a b with hl | heq | hl
    · exact hl
    · subst heq; lia
    · have := dayNumber_lt_of_lex _ _ hb ha hl; lia
  · exact dayNumber_lt_of_lex a b ha hb

theorem dayNumber_le_of_not_lex (a b : YMD) (ha : Valid a) (hb : Valid b) (h : ¬ Lex b a) :
    dayNumber a ≤ dayNumber b :=
  Int.not_lt.1 (mt (dayNumber_lt_iff b a hb ha).1 h)

theorem dayNumber_epoch : dayNumber ⟨1970, 1, 1⟩ = 0 := by decide

set_option linter.unusedVariables false in
/-- consecutive days inside a month (true of all `y m d`: the hypotheses only say which case is meant) -/
theorem dayNumber_succ_day (y : Int) (m d : Nat) (h : Valid ⟨y, m, d + 1⟩) (hd : 1 ≤ d) :
    dayNumber ⟨y, m, d + 1⟩ = dayNumber ⟨y, m, d⟩ + 1 := by
  rw [dayNumber_eq y m (d + 1) _ _ rfl rfl, dayNumber_eq y m d _ _ rfl rfl]
  lia

theorem dayNumber_succ_month (y : Int) (m : Nat) (hm : 1 ≤ m ∧ m < 12) :
    dayNumber ⟨y, m + 1, 1⟩ = dayNumber ⟨y, m, daysInMonth y m⟩ + 1 := by
  obtain ⟨hm1, hm12⟩ := hm
  have hdim := daysInMonth_eq y m _ _ hm1 (by lia) rfl rfl
  rw [dayNumber_eq y m _ _ _ rfl rfl, hdim]
  clear hdim
  by_cases h2 : m = 2
  · -- 1 March follows the last day of February: the shifted year `y - 1` ends
    subst h2
    rw [dayNumber_eq y (2 + 1) 1 y 0 rfl rfl]
    have := marchDays_step_bounds (y - 1)
    lia
  · -- any other month ends where the next month of the same shifted year begins
    have hs := marchDays_step_bounds (if m ≤ 2 then y - 1 else y)
    rw [dayNumber_eq y (m + 1) 1 (if m ≤ 2 then y - 1 else y) (((m : Int) + 9) % 12 + 1) (by lia) (by lia)]
    generalize (if m ≤ 2 then y - 1 else y) = y' at *
    have h10 : ((m : Int) + 9) % 12 ≤ 10 := by lia
    generalize ((m : Int) + 9) % 12 = mp at *
    lia

theorem dayNumber_succ_year (y : Int) : dayNumber ⟨y + 1, 1, 1⟩ = dayNumber ⟨y, 12, 31⟩ + 1 := by
  rw [dayNumber_eq (y + 1) 1 1 y 10 (by simp) (by decide),
    dayNumber_eq y 12 31 y 9 (by simp) (by decide)]
  lia

theorem year_length (y : Int) :
    dayNumber ⟨y + 1, 1, 1⟩ - dayNumber ⟨y, 1, 1⟩ = if isLeap y then 366 else 365 := by
  rw [dayNumber_eq (y + 1) 1 1 y 10 (by simp) (by decide),
    dayNumber_eq y 1 1 (y - 1) 10 (by simp) (by decide)]
  have hs := marchDays_step (y - 1)
  lia

example : Valid ⟨2024, 2, 29⟩ := by unfold Valid; decide
example : ¬ Valid ⟨2023, 2, 29⟩ := by unfold Valid; decide
example : civilFromDays 19782 = ⟨2024, 2, 29⟩ := by decide

end SCP.Calendar
