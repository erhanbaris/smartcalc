/-
  SCP.LexerInv — what every token list produced by the tokenizers looks like, for every line,
  every language and whatever the regular expressions of the configuration are: the token infos
  are ordered by their start offset (text order, which is what pattern matching and the parser
  rely on) and every one of them carries a token (comments and blanks are gone).
-/
import SC.Lexer
namespace SCP.LexerInv
open SC
variable {F : Type} [Num F]
set_option linter.unusedSectionVars false

def SortedByStart (l : List (TokInfo F)) : Prop := l.Pairwise (fun a b => a.start ≤ b.start)
def AllTyped (l : List (TokInfo F)) : Prop := ∀ t ∈ l, t.tok.isSome = true

theorem insertByStart_perm (t : TokInfo F) (l : List (TokInfo F)) : (insertByStart t l).Perm (t :: l) := by
  induction l with
  | nil => exact .refl _
  | cons y rest ih =>
    unfold insertByStart
    split
    · exact .refl _
    · exact (ih.cons y).trans (.swap t y rest)

theorem insertByStart_sorted (t : TokInfo F) (l : List (TokInfo F)) (h : SortedByStart l) : SortedByStart (insertByStart t l) := by
  induction l with
  | nil => exact List.pairwise_singleton _ _
  | cons y rest ih =>
    have ⟨hy, hr⟩ := List.pairwise_cons.mp h
    unfold insertByStart
    split
    · refine List.pairwise_cons.mpr ⟨fun b hb => ?_, h⟩
      rcases List.mem_cons.mp hb with rfl | hb
      · omega
      · have := hy b hb; omega
    · refine List.pairwise_cons.mpr ⟨fun b hb => ?_, ih hr⟩
      rcases List.mem_cons.mp ((insertByStart_perm t rest).mem_iff.mp hb) with rfl | hb
      · omega
      · exact hy b hb

theorem foldl_insert_perm (l acc : List (TokInfo F)) : (l.foldl (fun acc t => insertByStart t acc) acc).Perm (l ++ acc) := by
  induction l generalizing acc with
  | nil => exact .refl _
  | cons t rest ih => exact (ih _).trans (((insertByStart_perm t acc).append_left rest).trans List.perm_middle)

theorem cleanupInfos_spec (toks : List (TokInfo F)) :
    SortedByStart (cleanupInfos toks) ∧ (cleanupInfos toks).Perm (toks.filter (·.tok.isSome)) :=
  ⟨List.foldlRecOn _ _ .nil fun acc h t _ => insertByStart_sorted t acc h,
    (foldl_insert_perm _ []).trans (by rw [List.append_nil])⟩

/-- `mapM` in `Option` keeps, position by position, whatever `f` keeps: a projection that `f` leaves alone, a property it carries along -/
theorem mapM_keeps {α β γ : Type} (f : α → Option β) (ga : α → γ) (gb : β → γ) (pa : α → Prop) (pb : β → Prop)
    (hf : ∀ a b, f a = some b → gb b = ga a ∧ (pa a → pb b)) (l : List α) (l' : List β) (h : l.mapM f = some l') :
    l'.map gb = l.map ga ∧ ((∀ a ∈ l, pa a) → ∀ b ∈ l', pb b) := by
  induction l generalizing l' with
  | nil => cases h; exact ⟨rfl, fun _ => nofun⟩
  | cons a rest ih =>
    obtain ⟨b, hb, bs, hbs, rfl⟩ : ∃ b, f a = some b ∧ ∃ bs, rest.mapM f = some bs ∧ b :: bs = l' := by
      simpa [Option.bind_eq_some_iff] using h
    have ⟨h1, h2⟩ := hf a b hb
    have ⟨i1, i2⟩ := ih bs hbs
    exact ⟨by rw [List.map_cons, List.map_cons, h1, i1],
      fun hp => List.forall_mem_cons.mpr ⟨h2 (hp a List.mem_cons_self), i2 fun x hx => hp x (List.mem_cons_of_mem _ hx)⟩⟩

theorem aliasGo_spec (env : LexEnv) (c : Cfg F) (now : Now) (ti : TokInfo F) (arr : Array Char)
    (table : List (NRe × String)) (ti' : TokInfo F) (h : aliasPass.go env c now ti arr table = some ti') :
    ti'.start = ti.start ∧ (ti.tok.isSome = true → ti'.tok.isSome = true) := by
  fun_induction aliasPass.go env c now ti arr table
  case case1 => cases h; exact ⟨rfl, id⟩                          -- table exhausted: unchanged
  case case2 => cases h                                           -- outside the model
  case case3 | case4 => cases h; exact ⟨rfl, fun _ => rfl⟩        -- the token is replaced
  case case5 ih | case6 ih => exact ih h                          -- next entry

theorem aliasPass_spec (env : LexEnv) (c : Cfg F) (now : Now) (table : List (NRe × String)) (st st' : List (TokInfo F))
    (h : aliasPass env c now table st = some st') :
    st'.map (·.start) = st.map (·.start) ∧ (AllTyped st → AllTyped st') := by
  refine mapM_keeps _ (·.start) (·.start) _ _ (fun ti ti' hti => ?_) st st' h
  split at hti
  · cases hti
  · exact aliasGo_spec env c now ti _ table ti' hti

theorem sorted_iff_map (l : List (TokInfo F)) : SortedByStart l ↔ (l.map (·.start)).Pairwise (· ≤ ·) :=
  List.pairwise_map.symm

theorem aliasTokinizer_spec (env : LexEnv) (c : Cfg F) (lang : String) (now : Now) (st st' : List (TokInfo F))
    (h : aliasTokinizer env c lang now st = some st') :
    st'.map (·.start) = st.map (·.start) ∧ (AllTyped st → AllTyped st') := by
  obtain ⟨mid, h1, h⟩ := Option.bind_eq_some_iff.mp h
  have s1 := aliasPass_spec env c now env.alias st mid h1
  split at h
  · have s2 := aliasPass_spec env c now _ mid st' h
    exact ⟨s2.1.trans s1.1, s2.2 ∘ s1.2⟩
  · cases h; exact s1

/-- the tokens of a line are in text order and all carry a token — for every line, language, clock,
    configuration and every set of regular expressions -/
theorem lexText_sorted_typed (env : LexEnv) (c : Cfg F) (lang : String) (now : Now) (line : List Char) (toks : List (TokInfo F))
    (h : lexText env c lang now line = some toks) : SortedByStart toks ∧ AllTyped toks := by
  unfold lexText lexFull at h
  simp only [Option.map_eq_some_iff, Option.bind_eq_some_iff] at h
  -- `stLang`: after the language tokenizer; `stRe`: after the regex tokenizer; `toks`: after the alias tokenizer
  obtain ⟨r, ⟨stLang, _, stRe, hre, toks, halias, rfl⟩, rfl⟩ := h
  -- the regex tokenizer ends with `cleanupInfos`, on the infos `stRaw.toks` its parsers made
  obtain ⟨stRaw, _, rfl⟩ := Option.map_eq_some_iff.mp hre
  have hc := cleanupInfos_spec stRaw.toks
  have ha := aliasTokinizer_spec env c lang now _ toks halias
  refine ⟨?_, ha.2 fun t ht => (List.mem_filter.mp (hc.2.mem_iff.mp ht)).2⟩
  rw [sorted_iff_map, ha.1, ← sorted_iff_map]
  exact hc.1

end SCP.LexerInv
