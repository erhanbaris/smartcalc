/-
  SCP.C01 — evaluation is total: one result slot per input line, whatever a single line does (every theorem here holds
  for EVERY line evaluator `ev`, a failing one included).  The split into lines is core's `List.splitOn` at LF of the text
  with CRLF read as LF (`splitLines_eq`), so what core proves of `splitOn` holds of the lines; slot i is the result of line i
  in the variables left by the lines before it (`slot_spec`).
  Termination of the rewrite, parser and variable loops: SCP.Termination, SCP.ParserTotal, SCP.VarTermination.
  Panic freedom is not a theorem of the model; it is decided by the byte-level generator + watchdog (DESIGN.md §7 C01).
-/
import SC.Session
import SCP.C04
namespace SCP.C01
open SC

variable {V R : Type}

theorem splitLines_length (t : List Char) : (splitLines t).length = t.count '\n' + 1 :=
  SCP.C04.splitLinesAux_length [] t

def normalize : List Char → List Char
  | [] => []
  | [c] => [c]
  | c :: d :: rest =>
    if c = '\r' ∧ d = '\n' then '\n' :: normalize rest else c :: normalize (d :: rest)

def joinLF : List (List Char) → List Char
  | [] => []
  | [l] => l
  | l :: ls => l ++ '\n' :: joinLF ls

/-- `acc` is the piece begun, reversed.  What core proves of `splitOn` then holds of the lines: joined by LF they give
    the normalized text back (`List.intercalate_splitOn`), and they are the only LF-free pieces that do
    (`List.splitOn_intercalate`). -/
theorem splitLinesAux_eq (acc t : List Char) :
    splitLinesAux acc t = (normalize t).splitOnPPrepend (· == '\n') acc := by
  fun_induction splitLinesAux acc t with
  | case1 => rfl                                                             -- end of the text
  | case2 => simp [normalize, List.splitOnPPrepend]                          -- a last LF
  | case3 _ _ h => simp [normalize, List.splitOnPPrepend, h]                 -- a last other character
  | case4 _ _ _ ih => simp [normalize, List.splitOnPPrepend, ih]             -- LF
  | case5 _ _ _ _ _ h ih => simp [normalize, List.splitOnPPrepend, ih, h]    -- CRLF: one separator
  | case6 _ _ _ _ h h' ih => simp [normalize, List.splitOnPPrepend, ih, h, h']   -- any other character

theorem splitLines_eq (t : List Char) : splitLines t = (normalize t).splitOn '\n' :=
  splitLinesAux_eq [] t

theorem joinLF_eq (ls : List (List Char)) : joinLF ls = ['\n'].intercalate ls := by
  fun_induction joinLF ls with
  | case1 => rfl
  | case2 => exact List.intercalate_singleton.symm
  | case3 l ls h ih =>
    rw [List.intercalate_cons_of_ne_nil h, ih]
    simp

/-- core does not state this of `List.splitOn` -/
theorem splitOnPPrepend_not_sep {α} {p : α → Bool} (xs acc : List α) (h : ∀ a ∈ acc, p a = false) :
    ∀ l ∈ xs.splitOnPPrepend p acc, ∀ a ∈ l, p a = false := by
  fun_induction List.splitOnPPrepend p xs acc with
  | case1 acc => exact List.forall_mem_singleton.2 fun a ha => h a (List.mem_reverse.1 ha)
  | case2 a t acc hp ih =>
    exact List.forall_mem_cons.2 ⟨fun a ha => h a (List.mem_reverse.1 ha), ih nofun⟩
  | case3 a t acc hp ih => exact ih (List.forall_mem_cons.2 ⟨by simpa using hp, h⟩)

theorem splitLines_no_lf (t : List Char) : ∀ l ∈ splitLines t, '\n' ∉ l := fun l hl hm => by
  rw [splitLines_eq] at hl
  -- the separator test is false of every character of a piece, and true of LF
  exact absurd (splitOnPPrepend_not_sep _ [] (fun _ h => nomatch h) l hl _ hm) (by decide)

theorem splitLines_join (t : List Char) : joinLF (splitLines t) = normalize t := by
  rw [joinLF_eq, splitLines_eq, List.intercalate_splitOn]

/-- C01: `execute` reports success and returns one slot per line -/
theorem execute_total (ev : V → List Char → V × R) (v0 : V) (t : List Char) :
    (execute ev v0 t).1 = true ∧ (execute ev v0 t).2.length = t.count '\n' + 1 := by
  rw [SCP.C04.execute_eq]
  simp [SCP.C04.runLines_length, splitLines_length]

theorem runLines_append (ev : V → List Char → V × R) (v : V) (a b : List (List Char)) :
    runLines ev v (a ++ b) =
      ((runLines ev (runLines ev v a).1 b).1, (runLines ev v a).2 ++ (runLines ev (runLines ev v a).1 b).2) := by
  induction a generalizing v with
  | nil => simp [runLines]
  | cons l a ih => simp [runLines, ih]

/-- Slot `i` is the result of evaluating line `i` in the variables left by the lines before it,
    in input order; whatever the other lines evaluate to. -/
theorem slot_spec (ev : V → List Char → V × R) (v : V) (pre : List (List Char)) (l : List Char)
    (post : List (List Char)) :
    (runLines ev v (pre ++ l :: post)).2[pre.length]? =
      some (ev (runLines ev v pre).1 l).2 := by
  rw [runLines_append]
  simp [runLines, SCP.C04.runLines_length]

/-- LF, CRLF, a trailing separator -/
example : splitLines ['a', '\r', '\n', 'b', '\n', '\n', 'c', '\n'] = [['a'], ['b'], [], ['c'], []] := by
  decide
example : splitLines [] = [[]] := by decide
/-- a lone CR is not a separator -/
example : splitLines ['a', '\r', 'b'] = [['a', '\r', 'b']] := by decide

end SCP.C01
