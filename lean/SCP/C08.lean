/-
  SCP.C08 — Separators affect only reading and printing of numbers, never the computed value.

  For every pair of distinct one-character separators (decimal `d`, thousands `t`, or no thousands separator) that do not
  occur among the digits, a literal written as grouped integer digits + `d` + fraction digits reads back (`readLiteral`:
  remove `t`, replace `d` by '.') to the plain decimal string, hence to the same number as under any other such convention
  (`strReplace_single`, `read_write_of_not_mem`, `readLiteral_grouped`); `read_write`, `read_write_no_thousands`,
  `read_same_number` state it for separators with `IsSep`, which also excludes '.', '-', '+' although the proof never uses
  that.  The interpreter's arithmetic (`calcItem`) on items that involve no unit conversion does not read the separator
  fields (`calc_ignores_separators`); unit conversion does: it renders its intermediate values in the configured
  convention and reads them back with it (`executeCode`; see SCP.C08Code).
-/
import SC.Units
import SCP.C07
namespace SCP.C08
open SC

theorem strReplace_go_single (c : Char) (rep : List Char) :
    ∀ fuel s, s.length < fuel →
      strReplace.go [c] rep fuel s = s.flatMap (fun x => if x = c then rep else [x]) := by
  intro fuel
  induction fuel with
  | zero => intro s h; omega
  | succ fuel ih =>
    intro s h
    cases s with
    | nil => simp [strReplace.go]
    | cons x rest =>
      have hr : rest.length < fuel := by simp at h; omega
      by_cases hx : x = c
      · subst hx
        simp [strReplace.go, startsWith, ih rest hr]
      · have hx' : ¬ c = x := fun e => hx e.symm
        simp [strReplace.go, startsWith, ih rest hr, hx, hx']

theorem strReplace_single (s rep : List Char) (c : Char) :
    strReplace s [c] rep = s.flatMap (fun x => if x = c then rep else [x]) := by
  unfold strReplace
  exact strReplace_go_single c rep _ s (by omega)

theorem strReplace_append (a b rep : List Char) (c : Char) :
    strReplace (a ++ b) [c] rep = strReplace a [c] rep ++ strReplace b [c] rep := by
  simp [strReplace_single]

theorem strReplace_cons (x c : Char) (s rep : List Char) :
    strReplace (x :: s) [c] rep = (if x = c then rep else [x]) ++ strReplace s [c] rep := by
  simp [strReplace_single]

theorem strReplace_go_absent (p : Char) (ps rep : List Char) : ∀ (fuel : Nat) (s : List Char), p ∉ s →
    strReplace.go (p :: ps) rep fuel s = s := by
  intro fuel
  induction fuel with
  | zero => intro s _; simp [strReplace.go]
  | succ fuel ih =>
    intro s h
    cases s with
    | nil => simp [strReplace.go]
    | cons c r =>
      have hc : ¬ p = c := by intro e; exact h (by simp [e])
      have hr : p ∉ r := by intro e; exact h (by simp [e])
      simp [strReplace.go, startsWith, hc, ih r hr]

theorem strReplace_absent (p : Char) (ps rep s : List Char) (h : p ∉ s) : strReplace s (p :: ps) rep = s := by
  simp [strReplace, strReplace_go_absent p ps rep _ s h]

theorem strReplace_remove (c : Char) (s : List Char) : strReplace s [c] [] = s.filter (· ≠ c) := by
  induction s with
  | nil => simp [strReplace_single]
  | cons a s ih => rw [strReplace_cons, ih]; by_cases ha : a = c <;> simp [ha]

theorem strReplace_char (c r : Char) (s : List Char) :
    strReplace s [c] [r] = s.map (fun x => if x = c then r else x) := by
  induction s with
  | nil => simp [strReplace_single]
  | cons a s ih => rw [strReplace_cons, ih]; by_cases ha : a = c <;> simp [ha]

theorem strReplace_self (c : Char) (s : List Char) : strReplace s [c] [c] = s := by
  rw [strReplace_char]
  exact (List.map_congr_left fun x _ => by split <;> simp_all).trans (List.map_id _)

/-- the empty pattern of `str::replace` inserts the replacement between all characters: an empty
    replacement changes nothing -/
theorem strReplace_nil_nil (s : List Char) : strReplace s [] [] = s := by
  simp [strReplace]

def IsSep (c : Char) : Prop := ¬ (isDigit c = true) ∧ c ≠ '.' ∧ c ≠ '-' ∧ c ≠ '+'

theorem IsSep.not_mem {c : Char} (hc : IsSep c) {l : List Char} (hl : ∀ x ∈ l, isDigit x = true) :
    c ∉ l := fun h => hc.1 (hl c h)

theorem replace_decimal (d : Char) (ip fp : List Char) (hip : d ∉ ip) (hfp : d ∉ fp) :
    strReplace (ip ++ d :: fp) [d] ['.'] = ip ++ '.' :: fp := by
  rw [strReplace_append, strReplace_cons, strReplace_absent d [] _ ip hip, strReplace_absent d [] _ fp hfp]
  simp

/-- Writing a number as grouped integer digits, decimal separator, fraction digits and reading it back with the same
    separators yields `ip.fp`, for any two distinct characters that do not occur among the digits — '.' included -/
theorem read_write_of_not_mem (d t : Char) (hdt : d ≠ t) (ip fp : List Char)
    (hd : d ∉ ip ∧ d ∉ fp) (ht : t ∉ ip ∧ t ∉ fp) :
    strReplace (strReplace (groupThousands [t] ip ++ d :: fp) [t] []) [d] ['.'] = ip ++ '.' :: fp := by
  have hrm : strReplace (groupThousands [t] ip ++ d :: fp) [t] [] = ip ++ d :: fp := by
    rw [strReplace_append, strReplace_cons, if_neg hdt, strReplace_absent t [] _ fp ht.2, strReplace_remove]
    exact congrArg (· ++ _) (SCP.C07.group_ungroup t ip ht.1)
  rw [hrm, replace_decimal d ip fp hd.1 hd.2]

theorem read_write (d t : Char) (hd : IsSep d) (ht : IsSep t) (hdt : d ≠ t) (ip fp : List Char)
    (hip : ∀ c ∈ ip, isDigit c = true) (hfp : ∀ c ∈ fp, isDigit c = true) :
    strReplace (strReplace (groupThousands [t] ip ++ d :: fp) [t] []) [d] ['.'] = ip ++ '.' :: fp :=
  read_write_of_not_mem d t hdt ip fp ⟨hd.not_mem hip, hd.not_mem hfp⟩ ⟨ht.not_mem hip, ht.not_mem hfp⟩

/-- the same without a thousands separator (empty string) -/
theorem read_write_no_thousands (d : Char) (hd : IsSep d) (ip fp : List Char)
    (hip : ∀ c ∈ ip, isDigit c = true) (hfp : ∀ c ∈ fp, isDigit c = true) :
    strReplace (strReplace (ip ++ d :: fp) [] []) [d] ['.'] = ip ++ '.' :: fp := by
  rw [strReplace_nil_nil, replace_decimal d ip fp (hd.not_mem hip) (hd.not_mem hfp)]

/-- what the reader of a convention makes of a number written in that convention: the number the plain decimal string
    `ip.fp` denotes -/
theorem readLiteral_grouped {F : Type} [Num F] (d t : Char) (hdt : d ≠ t) (ip fp : List Char)
    (hd : d ∉ ip ∧ d ∉ fp) (ht : t ∉ ip ∧ t ∉ fp) :
    (readLiteral (String.singleton d) (String.singleton t) (groupThousands [t] ip ++ d :: fp) : Option F) =
      Num.parseDec (ip ++ '.' :: fp) := by
  rw [readLiteral, String.toList_singleton, String.toList_singleton, read_write_of_not_mem d t hdt ip fp hd ht]

/-- hence two conventions read the "same" literal to the same number -/
theorem read_same_number {F : Type} [Num F] (d t d' t' : Char) (hd : IsSep d) (ht : IsSep t) (hdt : d ≠ t)
    (hd' : IsSep d') (ht' : IsSep t') (hdt' : d' ≠ t') (ip fp : List Char)
    (hip : ∀ c ∈ ip, isDigit c = true) (hfp : ∀ c ∈ fp, isDigit c = true) :
    (readLiteral (String.singleton d) (String.singleton t) (groupThousands [t] ip ++ d :: fp) : Option F) =
      readLiteral (String.singleton d') (String.singleton t') (groupThousands [t'] ip ++ d' :: fp) :=
  (readLiteral_grouped d t hdt ip fp ⟨hd.not_mem hip, hd.not_mem hfp⟩ ⟨ht.not_mem hip, ht.not_mem hfp⟩).trans
    (readLiteral_grouped d' t' hdt' ip fp ⟨hd'.not_mem hip, hd'.not_mem hfp⟩ ⟨ht'.not_mem hip, ht'.not_mem hfp⟩).symm

/-- two configurations that differ only in the separators (`c'` is `c` with its own separators written in) -/
def SepEquiv {F : Type} (c c' : Cfg F) : Prop :=
  c' = { c with dec := c'.dec, thou := c'.thou }

/-- `calcItem` on items that involve no unit conversion does not read the separator fields: the converter it is handed
    is the one `exec` builds from the configuration, and under `hnd` it is never called -/
theorem calc_ignores_separators {F : Type} [Num F] (c c' : Cfg F) (h : SepEquiv c c') (a b : Item F) (op : BinOp)
    (hnd : ∀ v u, a ≠ .dyn v u) :
    calcItem c.rates (fun w u2 => match a with | .dyn _ u => convForCalc c u w u2 | _ => none) a b op =
      calcItem c'.rates (fun w u2 => match a with | .dyn _ u => convForCalc c' u w u2 | _ => none) a b op := by
  have hr : c'.rates = c.rates := by
    have := congrArg Cfg.rates h
    simpa using this
  rw [hr]
  cases a with
  | dyn v u => exact absurd rfl (hnd v u)
  | _ => rfl

end SCP.C08
