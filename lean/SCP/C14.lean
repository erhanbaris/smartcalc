/-
  SCP.C14 — unix timestamps convert to and from date-times as mutual inverses (`unix_round_trip`, `dateTime_round_trip`: for
  every timestamp in chrono's range, whatever zone is configured or requested).  `N to date` is the instant N seconds after
  the epoch, `<date> as unix` is midnight UTC of that date; what is shown for an instant in a zone with offset `off` denotes
  exactly `instant + 60·off` (`shown_fields`, through the calendar bijection), and the printed timestamp reads back to the
  same integer (`raw_print_all_digits`).  The `phrase_*` theorems: the regenerated rule patterns match the phrases' tokens.
-/
import SC.Engine
import SC.Gen.Config
import SCP.Calendar
import SCP.C07
import SCP.Lemmas.C13
import SCP.Lemmas.Match
import SCP.Lemmas.Rules
namespace SCP.C14
open SC
open SCP.Calendar SCP.Match SCP.Lemmas.C13

def numI (n : Int) : Tok Rat := .item (.number ((n : Int) : Rat) .decimal)
def ti (t : Tok Rat) : TokInfo Rat := { start := 0, stop := 0, tok := some t }
def tiText (s : String) : TokInfo Rat := { start := 0, stop := 0, tok := some (.text s) }

attribute [rules] numI ti tiText

/-- `N to date`: the instant N seconds after the epoch in the configured zone -/
theorem from_unix (c : Cfg Rat) (lang : String) (now : Now) (vs : Vars Rat) (n : Int) (h : dateTimeOk n = true) :
    applyRule c lang now vs .fromUnixtime [("number", ti (numI n))] = some (.item (.dateTime n c.tz)) := by
  simp [rules, toInt_intCast, h]

/-- `N to ZONE`: the same instant, tagged with the requested zone -/
theorem from_unix_zone (c : Cfg Rat) (lang : String) (now : Now) (vs : Vars Rat) (n : Int) (zn : String) (off : Int)
    (h : dateTimeOk n = true) :
    applyRule c lang now vs .fromUnixtime [("number", ti (numI n)), ("timezone", ti (.tz zn off))] =
      some (.item (.dateTime n ⟨uppercaseAscii zn, off⟩)) := by
  simp [rules, toInt_intCast, h]

theorem from_unix_out_of_range (c : Cfg Rat) (lang : String) (now : Now) (vs : Vars Rat) (n : Int) (h : dateTimeOk n = false) :
    applyRule c lang now vs .fromUnixtime [("number", ti (numI n))] = none := by
  simp [rules, toInt_intCast, h]

def raw (n : Int) : Tok Rat := .item (.number ((n : Int) : Rat) .raw)

attribute [rules] raw

/-- `<date> as unix`: seconds from the epoch to midnight UTC of that date -/
theorem date_as_unix (c : Cfg Rat) (lang : String) (now : Now) (vs : Vars Rat) (d : YMD) (tz : Zone) :
    applyRule c lang now vs .toUnixtime [("data", ti (.item (.date d tz)))] = some (raw (dayNumber d * 86400)) := by
  simp [rules, dateSecs]

theorem time_as_unix (c : Cfg Rat) (lang : String) (now : Now) (vs : Vars Rat) (s : Int) (tz : Zone) :
    applyRule c lang now vs .toUnixtime [("data", ti (.item (.time s tz)))] = some (raw s) := by
  simp [rules]

theorem dateTime_as_unix (c : Cfg Rat) (lang : String) (now : Now) (vs : Vars Rat) (s : Int) (tz : Zone) :
    applyRule c lang now vs .toUnixtime [("data", ti (.item (.dateTime s tz)))] = some (raw s) := by
  simp [rules]

/-- timestamp → date-time → timestamp is the identity (any requested zone) -/
theorem unix_round_trip (c : Cfg Rat) (lang : String) (now : Now) (vs : Vars Rat) (n : Int) (zn : String) (off : Int)
    (h : dateTimeOk n = true) :
    ((applyRule c lang now vs .fromUnixtime [("number", ti (numI n))]).bind fun t =>
      applyRule c lang now vs .toUnixtime [("data", ti t)]) = some (raw n) ∧
    ((applyRule c lang now vs .fromUnixtime [("number", ti (numI n)), ("timezone", ti (.tz zn off))]).bind fun t =>
      applyRule c lang now vs .toUnixtime [("data", ti t)]) = some (raw n) := by
  rw [from_unix c lang now vs n h, from_unix_zone c lang now vs n zn off h]
  simp only [Option.bind_some]
  exact ⟨dateTime_as_unix c lang now vs n _, dateTime_as_unix c lang now vs n _⟩

/-- date-time → timestamp → date-time gives the same instant back (shown in the configured zone) -/
theorem dateTime_round_trip (c : Cfg Rat) (lang : String) (now : Now) (vs : Vars Rat) (s : Int) (tz : Zone)
    (h : dateTimeOk s = true) :
    ((applyRule c lang now vs .toUnixtime [("data", ti (.item (.dateTime s tz)))]).bind fun t =>
      match t with
      | .item (.number v _) => applyRule c lang now vs .fromUnixtime [("number", ti (.item (.number v .decimal)))]
      | _ => none) = some (.item (.dateTime s c.tz)) := by
  rw [dateTime_as_unix]
  simp only [Option.bind_some, raw]
  exact from_unix c lang now vs s h

/-- what is shown for an instant in a zone: civil date, hour, minute, second of `instant + 60·off`;
    these fields are in range and denote exactly that local instant -/
theorem shown_fields (s off : Int) :
    let ls := localSecs s ⟨"", off⟩
    let d := dateOfSecs ls
    let sod := ls % 86400
    Valid d ∧ 0 ≤ sod / 3600 ∧ sod / 3600 < 24 ∧ 0 ≤ sod % 3600 / 60 ∧ sod % 3600 / 60 < 60 ∧ 0 ≤ sod % 60 ∧ sod % 60 < 60 ∧
      dayNumber d * 86400 + (sod / 3600) * 3600 + (sod % 3600 / 60) * 60 + sod % 60 = s + off * 60 := by
  simp only [localSecs, dateOfSecs]
  rw [dayNumber_civilFromDays]
  generalize s + off * 60 = x
  -- a second of day is below 24 · 3600, its rest below 60 · 60 (one `omega` here negates the conjunction into
  -- eight cases over six quotients and remainders and is seven times as dear)
  refine ⟨civilFromDays_valid _,
    Int.ediv_nonneg (Int.emod_nonneg _ (by decide)) (by decide),
    Int.ediv_lt_of_lt_mul (by decide) (Int.emod_lt_of_pos _ (by decide)),
    Int.ediv_nonneg (Int.emod_nonneg _ (by decide)) (by decide),
    Int.ediv_lt_of_lt_mul (by decide) (Int.emod_lt_of_pos _ (by decide)),
    Int.emod_nonneg _ (by decide), Int.emod_lt_of_pos _ (by decide), ?_⟩
  omega

/-- `i64` display, read back -/
theorem readIntDigits_intDigits (n : Int) : readIntDigits (intDigits n) = n := by
  have hv := SCP.C07.radixValue_radixDigits 10 n.natAbs (by decide) (by decide)
  unfold intDigits
  by_cases hn : n < 0
  · -- a sign, then the digits of `-n`
    rw [if_pos hn]
    show -((radixValue 10 (radixDigits 10 n.natAbs) : Nat) : Int) = n
    rw [hv, Int.ofNat_natAbs_of_nonpos (Int.le_of_lt hn), Int.neg_neg]
  · -- no sign, and the first digit is not '-'
    rw [if_neg hn, List.nil_append]
    unfold readIntDigits
    split
    · rename_i heq
      exact absurd (SCP.C07.isDigit_radixDigits _ '-' (heq ▸ List.mem_cons_self)) (by decide)
    · rw [hv, Int.natAbs_of_nonneg (Int.not_lt.mp hn)]

/-- the printed timestamp shows every digit: reading the printed text gives the integer back -/
theorem raw_print_all_digits (n : Int) :
    readIntDigits (printBased ((n : Int) : Rat) .raw).toList = n := by
  simp only [printBased, toInt_intCast, String.toList_ofList, readIntDigits_intDigits]

/-- `<date> at <time>`: the date's midnight plus the time's seconds of day -/
theorem at_date_time (c : Cfg Rat) (lang : String) (now : Now) (vs : Vars Rat) (d : YMD) (tz tz2 : Zone) (t : Int) :
    applyRule c lang now vs .atDate [("source", ti (.item (.date d tz))), ("time", ti (.item (.time t tz2)))] =
      some (.item (.dateTime (dayNumber d * 86400 + t % 86400) tz)) := by
  simp [rules, dateSecs]

/-- `<date> at <hour>` for an hour 0..23 -/
theorem at_date_hour (c : Cfg Rat) (lang : String) (now : Now) (vs : Vars Rat) (d : YMD) (tz : Zone) (h : Nat) (hh : h < 24) :
    applyRule c lang now vs .atDate [("source", ti (.item (.date d tz))), ("time", ti (numI h))] =
      some (.item (.dateTime (dayNumber d * 86400 + h * 3600) tz)) := by
  have h24 : ((h : Nat) : Int) < 24 := Int.ofNat_lt.mpr hh
  -- `as u32` does not saturate
  have : toU32 (((h : Nat) : Int) : Rat) = (h : Int) := by
    rw [toU32, toInt_intCast, if_neg (Int.not_lt.mpr (Int.natCast_nonneg h)), if_neg (by omega)]
  simp [rules, dateSecs, this, h24]

/-- `N to date` -/
theorem phrase_to_date (n : Int) :
    ∃ pat, (Gen.rule_en_from_unixtime Rat).patterns[0]? = some pat ∧
      (findMatch ([] : Vars Rat) pat [ti (numI n), tiText "to", tiText "date"]).found = true ∧
      ((findMatch ([] : Vars Rat) pat [ti (numI n), tiText "to", tiText "date"]).fields.get? "number") = some (ti (numI n)) := by
  refine ⟨_, rfl, ?_⟩
  rw [findMatch_hits]
  · simp [rules]
  · exact ⟨hit_field, hit_group (by simp), hit_text, trivial⟩

/-- `N to ZONE` -/
theorem phrase_to_zone (n : Int) (zn : String) (off : Int) :
    ∃ pat, (Gen.rule_en_from_unixtime Rat).patterns[1]? = some pat ∧
      (findMatch ([] : Vars Rat) pat [ti (numI n), tiText "to", ti (.tz zn off)]).found = true ∧
      ((findMatch ([] : Vars Rat) pat [ti (numI n), tiText "to", ti (.tz zn off)]).fields.get? "timezone") = some (ti (.tz zn off)) := by
  refine ⟨_, rfl, ?_⟩
  rw [findMatch_hits]
  · simp [rules]
  · exact ⟨hit_field, hit_group (by simp), hit_field, trivial⟩

/-- `<date | time | date-time> as unix` -/
theorem phrase_as_unix (i : Item Rat) (hi : (∃ d z, i = .date d z) ∨ (∃ s z, i = .time s z) ∨ (∃ s z, i = .dateTime s z)) :
    ∃ pat, (Gen.rule_en_to_unixtime Rat).patterns[0]? = some pat ∧
      (findMatch ([] : Vars Rat) pat [ti (.item i), tiText "as", tiText "unix"]).found = true ∧
      ((findMatch ([] : Vars Rat) pat [ti (.item i), tiText "as", tiText "unix"]).fields.get? "data") = some (ti (.item i)) := by
  refine ⟨_, rfl, ?_⟩
  rw [findMatch_hits]
  · simp [rules]
  · refine ⟨hit_field (h := ?_), hit_group (by simp), hit_word, trivial⟩
    rcases hi with ⟨d, z, rfl⟩ | ⟨s, z, rfl⟩ | ⟨s, z, rfl⟩ <;> simp [tokFieldCompare, Tok.typeName, Item.typeName]

example : dateTimeOk 1664582400 = true := by decide
example : dateOfSecs (localSecs 1664582400 ⟨"EST", -300⟩) = ⟨2022, 9, 30⟩ := by decide
example : readIntDigits (printBased (((-62135596800 : Int)) : Rat) .raw).toList = -62135596800 := raw_print_all_digits _

end SCP.C14
