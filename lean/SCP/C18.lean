/-
  SCP.C18 — Custom rules and user-defined unit families: registration, effect, removal.

  The calculator's mutators are pure functions on the configuration (SC/Calc.lean).  `add_rule`, `delete_rule` (and
  `set_date_rule`, SCP/C18Date.lean) each rewrite the rule list of ONE language and touch nothing else: `mapRules` says that
  once, and what a call or a history of calls does is read off it, per language (`step_rules`, `run_rules`) and for the rest of
  the configuration (`Frame`, `run_frame`).  On the rule lists alone (`applyOps`): with no API rule among the original rules a
  history leaves `original ++ survivors` (`applyOps_base`; a deletion removes the FIRST rule of that name), which is what
  registering just the survivors, in their order, on the original configuration gives (`history_eq_survivors`: an equation of rule
  lists, which `run_rules` and `run_frame` carry to the configuration per language and per field).
  Then: what a registered rule does in the rewrite loop (one that declines is as if absent, one that returns a token replaces
  its match by it, fields are bound by name), and the return values of the unit-family calls (duplicate family names / item
  indices and items of unknown families are rejected without any change).  User-defined families convert along their declared
  chain because `SCP.C12.calc_factor` holds for EVERY contiguous chain with mutually inverse neighbours, not only the configured ones.
-/
import SC.Calc
import SC.Engine
import SCP.C12
import SCP.Lemmas.Pass
namespace SCP.C18
open SC
variable {F : Type} [Num F]
set_option linter.unusedSectionVars false

theorem addRule_false_iff (c : Cfg F) (lang : String) (r : Rule F) : (addRule c lang r).2 = false ↔ c.lang? lang = none := by
  unfold addRule
  cases c.lang? lang <;> simp

theorem addRule_false_noop (c : Cfg F) (lang : String) (r : Rule F) (h : (addRule c lang r).2 = false) : (addRule c lang r).1 = c := by
  unfold addRule at *
  cases hl : c.lang? lang with
  | none => rfl
  | some l => rw [hl] at h; simp at h

theorem deleteRule_false_iff (c : Cfg F) (lang name : String) :
    (deleteRule c lang name).2 = false ↔ ∀ l, c.lang? lang = some l → l.rules.any (·.isApiNamed name) = false := by
  unfold deleteRule
  cases c.lang? lang with
  | none => simp
  | some l => cases h : l.rules.any (·.isApiNamed name) <;> simp [h, -List.any_eq_false, -List.any_eq_true]

/-- a call of the registration API: `add_rule(lang, rule)` or `delete_rule(lang, name)`; `run` is the configuration after a
    history of such calls -/
inductive ROp (F : Type)
  | add (lang : String) (r : Rule F)
  | del (lang : String) (name : String)

def stepCfg (c : Cfg F) : ROp F → Cfg F
  | .add lang r => (addRule c lang r).1
  | .del lang name => (deleteRule c lang name).1

def run (c : Cfg F) (ops : List (ROp F)) : Cfg F := ops.foldl stepCfg c

def applyOp (L : String) (rs : List (Rule F)) : ROp F → List (Rule F)
  | .add lang r => if lang = L then rs ++ [r] else rs
  | .del lang name => if lang = L then removeFirst (·.isApiNamed name) rs else rs

def applyOps (L : String) (rs : List (Rule F)) (ops : List (ROp F)) : List (Rule F) := ops.foldl (applyOp L) rs

theorem lang?_name {c : Cfg F} {lang : String} {l : Lang F} (h : c.lang? lang = some l) : l.name = lang := by
  simpa using List.find?_some h

/-- `setLang` replaces by name, so a lookup by name stops at the same entry -/
theorem lang?_setLang (c : Cfg F) (l : Lang F) (L : String) :
    (c.setLang l).lang? L = (c.lang? L).map fun x => if x.name = l.name then l else x := by
  unfold Cfg.setLang Cfg.lang?
  rw [List.find?_map]
  congr 2
  funext x
  by_cases hx : x.name = l.name <;> simp [hx]

theorem lang_setLang (c : Cfg F) (l : Lang F) (L : String) (hex : (c.lang? l.name).isSome) :
    (c.setLang l).lang? L = if L = l.name then some l else c.lang? L := by
  rw [lang?_setLang]
  split
  next hL =>
    subst hL
    obtain ⟨x, hx⟩ := Option.isSome_iff_exists.mp hex
    simp [hx, lang?_name hx]
  next hL =>
    -- an entry found under `L` is not named `l.name`
    refine (Option.map_congr fun x hx => ?_).trans Option.map_id'
    rw [if_neg (lang?_name hx ▸ hL)]

theorem removeFirst_eq_eraseP {α : Type} (p : α → Bool) (l : List α) : removeFirst p l = l.eraseP p := by
  induction l with
  | nil => rfl
  | cons a l ih => rw [removeFirst, ih, List.eraseP_cons, cond_eq_ite]

/-- what `add_rule`, `delete_rule` and `set_date_rule` do to the configuration: the rule list of one language is rewritten
    (an unknown language changes nothing) -/
def mapRules (c : Cfg F) (lang : String) (g : List (Rule F) → List (Rule F)) : Cfg F :=
  match c.lang? lang with
  | some l => c.setLang { l with rules := g l.rules }
  | none => c

theorem mapRules_lang (c : Cfg F) (lang : String) (g : List (Rule F) → List (Rule F)) (L : String) :
    (mapRules c lang g).lang? L = (c.lang? L).map (fun l => if lang = L then { l with rules := g l.rules } else l) := by
  unfold mapRules
  split
  next l hl =>
    rw [lang?_setLang]
    refine Option.map_congr fun x hx => ?_
    -- `x` is the entry found under `L`, `l` the one found under `lang`: the same entry if `lang = L`, else of another name
    simp only [lang?_name hl, lang?_name hx, eq_comm (a := L)]
    split
    · subst L; cases hl.symm.trans hx; rfl
    · rfl
  next hl =>
    -- nothing is found under `lang`, so an entry found under `L` shows `lang ≠ L`
    refine (Option.map_id' (x := c.lang? L)).symm.trans (Option.map_congr fun x hx => ?_)
    rw [if_neg]
    rintro rfl
    cases hl.symm.trans hx

theorem mapRules_rules (c : Cfg F) (lang : String) (g : List (Rule F) → List (Rule F)) (L : String) :
    ((mapRules c lang g).lang? L).map (·.rules) = ((c.lang? L).map (·.rules)).map (fun rs => if lang = L then g rs else rs) := by
  rw [mapRules_lang, Option.map_map, Option.map_map]
  congr 1; funext l
  simp only [Function.comp]; split <;> rfl

def Frame (c' c : Cfg F) : Prop := ∃ ls, c' = { c with langs := ls }

theorem Frame.refl (c : Cfg F) : Frame c c := ⟨c.langs, rfl⟩

theorem Frame.trans {a b c : Cfg F} : Frame a b → Frame b c → Frame a c :=
  fun ⟨ls, h⟩ ⟨_, h'⟩ => ⟨ls, by rw [h, h']⟩

theorem mapRules_frame (c : Cfg F) (lang : String) (g : List (Rule F) → List (Rule F)) : Frame (mapRules c lang g) c := by
  unfold mapRules
  split
  · exact ⟨_, rfl⟩
  · exact Frame.refl c

theorem addRule_fst (c : Cfg F) (lang : String) (r : Rule F) : (addRule c lang r).1 = mapRules c lang (· ++ [r]) := by
  unfold addRule mapRules
  cases c.lang? lang <;> rfl

/-- a deletion that answers false changes nothing (a configuration may hold two languages of one name, so this is not
    `mapRules` with a function that happens to be the identity) -/
theorem deleteRule_fst (c : Cfg F) (lang name : String) :
    (deleteRule c lang name).1 =
      if (deleteRule c lang name).2 = true then mapRules c lang (removeFirst (·.isApiNamed name)) else c := by
  unfold deleteRule mapRules
  cases c.lang? lang with
  | none => rfl
  | some l => simp only; split <;> rfl

theorem deleteRule_false_noop (c : Cfg F) (lang name : String) (h : (deleteRule c lang name).2 = false) : (deleteRule c lang name).1 = c := by
  rw [deleteRule_fst, h]; rfl

theorem addRule_other (c : Cfg F) (lang : String) (r : Rule F) (L : String) (hL : L ≠ lang) :
    (addRule c lang r).1.lang? L = c.lang? L := by
  simp only [addRule_fst, mapRules_lang, if_neg fun h : lang = L => hL h.symm, Option.map_id']

theorem addRule_rules (c : Cfg F) (lang : String) (r : Rule F) (L : String) :
    ((addRule c lang r).1.lang? L).map (·.rules) = ((c.lang? L).map (·.rules)).map (fun rs => if lang = L then rs ++ [r] else rs) := by
  rw [addRule_fst, mapRules_rules]

theorem deleteRule_rules (c : Cfg F) (lang name L : String) :
    ((deleteRule c lang name).1.lang? L).map (·.rules) =
      ((c.lang? L).map (·.rules)).map (fun rs => if lang = L then removeFirst (·.isApiNamed name) rs else rs) := by
  rw [deleteRule_fst]
  split
  next => exact mapRules_rules c lang _ L
  next h =>
    -- the call answered false: no rule of `lang` has the name, and `removeFirst` finds nothing to remove
    have hnone := (deleteRule_false_iff c lang name).mp (Bool.eq_false_iff.mpr h)
    rw [Option.map_map]
    refine Option.map_congr fun l hl => ?_
    dsimp only [Function.comp]
    split
    · subst L
      rw [removeFirst_eq_eraseP, List.eraseP_of_forall_not (List.any_eq_false.mp (hnone l hl))]
    · rfl

theorem step_rules (c : Cfg F) (op : ROp F) (L : String) :
    ((stepCfg c op).lang? L).map (·.rules) = ((c.lang? L).map (·.rules)).map (fun rs => applyOp L rs op) := by
  cases op with
  | add lang r => exact addRule_rules c lang r L
  | del lang name => exact deleteRule_rules c lang name L

/-- after ANY history: the rule list of every language is the original one transformed by the
    calls addressed to that language -/
theorem run_rules (c : Cfg F) (ops : List (ROp F)) (L : String) :
    ((run c ops).lang? L).map (·.rules) = ((c.lang? L).map (·.rules)).map (fun rs => applyOps L rs ops) := by
  induction ops generalizing c with
  | nil => exact Option.map_id'.symm
  | cons op ops ih =>
    rw [run, List.foldl_cons, ← run, ih, step_rules, Option.map_map]
    rfl

theorem stepCfg_frame (c : Cfg F) (op : ROp F) : Frame (stepCfg c op) c := by
  cases op with
  | add lang r => simp only [stepCfg, addRule_fst]; exact mapRules_frame c lang _
  | del lang name =>
    simp only [stepCfg, deleteRule_fst]
    split
    · exact mapRules_frame c lang _
    · exact Frame.refl c

theorem run_langs_only (c : Cfg F) (ops : List (ROp F)) : Frame (run c ops) c := by
  induction ops generalizing c with
  | nil => exact Frame.refl c
  | cons op ops ih => exact Frame.trans (ih (stepCfg c op)) (stepCfg_frame c op)

/-- nothing but the rule lists changes (`run_langs_only`), spelled out for seven fields -/
theorem run_frame (c : Cfg F) (ops : List (ROp F)) :
    (run c ops).units = c.units ∧ (run c ops).rates = c.rates ∧ (run c ops).dec = c.dec ∧ (run c ops).thou = c.thou ∧
    (run c ops).currencies = c.currencies ∧ (run c ops).bridges = c.bridges ∧ (run c ops).tz = c.tz := by
  obtain ⟨ls, h⟩ := run_langs_only c ops
  rw [h]
  exact ⟨rfl, rfl, rfl, rfl, rfl, rfl, rfl⟩

def isApi (r : Rule F) : Bool := match r.fn with | .api _ _ => true | _ => false

theorem named_api (r : Rule F) (name : String) (h : r.isApiNamed name = true) : isApi r = true := by
  unfold Rule.isApiNamed at h
  unfold isApi
  split at h
  next heq => rw [heq]
  next => cases h

/-- internal rules in front stay in front: no call removes one, a registration appends -/
theorem applyOp_base (L : String) (base : List (Rule F)) (hb : ∀ r ∈ base, isApi r = false) (xs : List (Rule F)) (op : ROp F) :
    applyOp L (base ++ xs) op = base ++ applyOp L xs op := by
  cases op with
  | add lang r =>
    simp only [applyOp]
    split
    · exact List.append_assoc ..
    · rfl
  | del lang name =>
    simp only [applyOp, removeFirst_eq_eraseP]
    split
    · exact List.eraseP_append_right _ fun r hr h => Bool.false_ne_true ((hb r hr).symm.trans (named_api r name h))
    · rfl

theorem applyOps_base (L : String) (base : List (Rule F)) (hb : ∀ r ∈ base, isApi r = false) (ops : List (ROp F)) (xs : List (Rule F)) :
    applyOps L (base ++ xs) ops = base ++ applyOps L xs ops :=
  List.foldl_hom (base ++ ·) (applyOp_base L base hb)

def registrations (L : String) (rs : List (Rule F)) : List (ROp F) := rs.map (fun r => .add L r)

theorem applyOps_registrations (L : String) (xs rs : List (Rule F)) : applyOps L xs (registrations L rs) = xs ++ rs := by
  induction rs generalizing xs with
  | nil => exact (List.append_nil xs).symm
  | cons r rs ih =>
    rw [registrations, List.map_cons, applyOps, List.foldl_cons, applyOp, if_pos rfl]
    exact (ih (xs ++ [r])).trans (List.append_assoc xs [r] rs)

/-- after any history the rule list of a language is the one a fresh calculator
    gets by registering only the survivors, in their order -/
theorem history_eq_survivors (L : String) (base : List (Rule F)) (hb : ∀ r ∈ base, isApi r = false) (ops : List (ROp F)) :
    applyOps L base ops = applyOps L base (registrations L (applyOps L [] ops)) := by
  rw [applyOps_registrations, ← applyOps_base L base hb, List.append_nil]

theorem tryPats_decline (c : Cfg F) (lang : String) (now : Now) (vs : Vars F) (name : String) (pats : List (List (TokInfo F)))
    (infos : List (TokInfo F)) :
    rulePass.tryPats c lang now vs ⟨.api name .decline, pats⟩ pats infos = none := by
  rw [SCP.Lemmas.rule_tryPats_eq]
  exact List.findSome?_eq_none_iff.mpr fun p _ => ite_self none  -- `applyRule` of a declining rule is `none` on every match

/-- a rule that declines leaves the line exactly as if the rule were absent -/
theorem decline_noop (c : Cfg F) (lang : String) (now : Now) (vs : Vars F) (rules : List (Rule F)) (name : String)
    (pats : List (List (TokInfo F))) (infos : List (TokInfo F)) :
    rulePass c lang now vs (rules ++ [⟨.api name .decline, pats⟩]) infos = rulePass c lang now vs rules infos := by
  unfold rulePass
  rw [List.foldl_append]
  simp only [List.foldl_cons, List.foldl_nil]
  rw [tryPats_decline]

/-- when the first pattern of a rule matches and the rule returns a token, the matched range is
    replaced by exactly that token -/
theorem api_effect (c : Cfg F) (lang : String) (now : Now) (vs : Vars F) (name : String) (kind : ApiKind F)
    (p : List (TokInfo F)) (ps : List (List (TokInfo F))) (infos : List (TokInfo F)) (t : Tok F)
    (hm : (findMatch vs p infos).found = true)
    (hr : applyRule c lang now vs (.api name kind) (findMatch vs p infos).fields = some t) :
    rulePass c lang now vs [⟨.api name kind, p :: ps⟩] infos = (replaceRange infos (findMatch vs p infos) t, true) := by
  unfold rulePass
  simp only [List.foldl_cons, List.foldl_nil, rulePass.tryPats, hm, if_true, hr]

/-- fields are bound by name: the `echo f` rule returns the token bound to the field `f` -/
theorem echo_binds_by_name (c : Cfg F) (lang : String) (now : Now) (vs : Vars F) (name f : String) (fs : Fields F) :
    applyRule c lang now vs (.api name (.echo f)) fs = (fs.get? f).bind (·.tok) := by
  simp [rules]

theorem const_returns (c : Cfg F) (lang : String) (now : Now) (vs : Vars F) (name : String) (v : F) (fs : Fields F) :
    applyRule c lang now vs (.api name (.const v)) fs = some (.item (.number v .decimal)) := by
  simp [rules]

theorem addDynamicType_false_iff (c : Cfg F) (name : String) : (addDynamicType c name).2 = false ↔ (assoc? c.units name).isSome := by
  unfold addDynamicType
  cases assoc? c.units name <;> simp

theorem addDynamicType_false_noop (c : Cfg F) (name : String) (h : (addDynamicType c name).2 = false) : (addDynamicType c name).1 = c := by
  unfold addDynamicType at *
  cases hu : assoc? c.units name with
  | none => rw [hu] at h; simp at h
  | some _ => rfl

theorem addDynamicTypeItem_false_iff (c : Cfg F) (it : UnitItem F) :
    (addDynamicTypeItem c it).2 = false ↔
      (assoc? c.units it.group = none ∨ ∀ items, assoc? c.units it.group = some items → items.any (·.index = it.index) = true) := by
  unfold addDynamicTypeItem
  cases assoc? c.units it.group with
  | none => simp
  | some items => cases h : items.any (·.index = it.index) <;> simp [h, -List.any_eq_false, -List.any_eq_true]

theorem addDynamicTypeItem_false_noop (c : Cfg F) (it : UnitItem F) (h : (addDynamicTypeItem c it).2 = false) :
    (addDynamicTypeItem c it).1 = c := by
  unfold addDynamicTypeItem at *
  cases hu : assoc? c.units it.group with
  | none => rfl
  | some items =>
    rw [hu] at h
    cases ha : items.any (·.index = it.index) with
    | true => simp [ha]
    | false => simp [ha] at h  -- a new index is accepted: the answer is true

theorem user_family_converts (ex : String → Rat → Option Rat) (m : String → Rat) (items : List (UnitItem Rat)) (lo : Nat)
    (hch : SCP.Lemmas.C12.Chain items lo) (hex : SCP.Lemmas.C12.ExecIsMult ex m items) (hinv : SCP.Lemmas.C12.InversePairs m items)
    (p q : Nat) (hp : p < items.length) (hq : q < items.length) (v : Rat) :
    calculateUnitWith ex items v (lo + p) (lo + q) = some (v * SCP.C12.factor m items p q) :=
  SCP.C12.calc_factor ex m items lo hch hex hinv p q hp hq v

/-! non-vacuity: add, add, delete the first -/
example : applyOps "en" ([] : List (Rule Rat))
    [.add "en" ⟨.api "a" (.const 1), []⟩, .add "en" ⟨.api "a" (.const 2), []⟩, .add "tr" ⟨.api "b" .decline, []⟩, .del "en" "a"]
    = [⟨.api "a" (.const 2), []⟩] := by
  simp [applyOps, applyOp, removeFirst, Rule.isApiNamed]

end SCP.C18
