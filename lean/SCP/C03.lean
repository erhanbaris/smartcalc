/-
  SCP.C03 — a text is a straight-line program: later lines see the latest binding (for every number type `F`).

  The session map is a finite map in which the latest binding wins (`get_insert`).  All the interpreter does to it is to
  overwrite the data of bound names the tree assigns, and all the parser does is to register the line's own, unbound name
  (`exec_preserves`, `parseLine_vars`); the frame theorems, "a binding holds a value, not a reference" (`value_not_reference`)
  and "a line that fails disturbs nothing" (`failed_line_frame`) are instances.
  Substitution: `find_location` is `List.find?` over the positions (`findLocation_eq`), so it returns the LEFTMOST position at
  which the whole name matches; among the leftmost occurrences of all names the round picks the closest and, at equal
  position, the LONGEST name (`pickBest_spec`).
-/
import SC.Engine
namespace SCP.C03
open SC
set_option linter.unusedSectionVars false

variable {F : Type} [Num F]

theorem get_insert (vs : Vars F) (k k' : String) (v : VarInfo F) :
    (vs.insert k v).get? k' = if k' = k then some v else vs.get? k' := by
  by_cases hk : k' = k
  · subst hk
    fun_induction Vars.insert vs k' v <;> simp [Vars.get?, *]
  · have hk' : ¬ k = k' := fun e => hk e.symm
    fun_induction Vars.insert vs k v <;> simp [Vars.get?, *]

theorem use_sees_latest (rates : List (String × F)) (conv) (vs : Vars F) (name : String) (info : VarInfo F)
    (h : vs.get? name = some info) :
    execAst rates conv vs (.var name) = .ok (info.data, vs) := by
  unfold execAst
  rw [h]

theorem assign_stores (rates : List (String × F)) (conv) (vs vs' : Vars F) (name : String) (e : Ast F)
    (v : Val F) (info : VarInfo F)
    (he : execAst rates conv vs e = .ok (v, vs')) (hn : vs'.get? name = some info) :
    ∃ vs'', execAst rates conv vs (.assignment name e) = .ok (v, vs'') ∧
      vs''.get? name = some { info with data := v } := by
  refine ⟨vs'.insert name { info with data := v }, ?_, ?_⟩
  · unfold execAst
    rw [he]
    dsimp only [bind, Except.bind]
    rw [hn]
  · rw [get_insert, if_pos rfl]

def NoAssign : Ast F → Prop
  | .binary l _ r => NoAssign l ∧ NoAssign r
  | .prefixUnary _ a => NoAssign a
  | .assignment _ _ => False
  | _ => True

def Assigns (name : String) : Ast F → Prop
  | .binary l _ r => Assigns name l ∨ Assigns name r
  | .prefixUnary _ a => Assigns name a
  | .assignment n e => n = name ∨ Assigns name e
  | _ => False

theorem NoAssign.not_assigns {a : Ast F} (h : NoAssign a) (n : String) : ¬ Assigns n a := by
  induction a with
  | binary l _ r ihl ihr => exact fun hn => hn.elim (ihl h.1) (ihr h.2)
  | prefixUnary _ a ih => exact ih h
  | assignment => exact h.elim
  | _ => exact id

section
variable {rates : List (String × F)} {conv : UnitRef → F → UnitRef → Option F} {vs vs' : Vars F} {v : Val F}

theorem bind_ok {ε α β} {x : Except ε α} {f : α → Except ε β} {b : β} (h : x >>= f = .ok b) :
    ∃ a, x = .ok a ∧ f a = .ok b := by
  cases x with
  | error => cases h
  | ok a => exact ⟨a, rfl, h⟩

theorem exec_binary_ok {l r : Ast F} {op : Op} (h : execAst rates conv vs (.binary l op r) = .ok (v, vs')) :
    ∃ lv vs1 rv, execAst rates conv vs l = .ok (lv, vs1) ∧ execAst rates conv vs1 r = .ok (rv, vs') := by
  unfold execAst at h
  obtain ⟨⟨lv, vs1⟩, hl, h⟩ := bind_ok h
  obtain ⟨⟨rv, vs2⟩, hr, h⟩ := bind_ok h
  refine ⟨lv, vs1, rv, hl, hr.trans ?_⟩
  -- every successful branch of the value computation returns the variables `r` left
  dsimp only at h
  repeat' split at h
  all_goals cases h
  rfl

theorem exec_prefix_ok {a : Ast F} {op : Op} (h : execAst rates conv vs (.prefixUnary op a) = .ok (v, vs')) :
    ∃ av, execAst rates conv vs a = .ok (av, vs') := by
  unfold execAst at h
  obtain ⟨⟨av, vs1⟩, ha, h⟩ := bind_ok h
  refine ⟨av, ha.trans ?_⟩
  dsimp only at h
  repeat' split at h
  all_goals cases h
  all_goals rfl

theorem exec_assign_ok {e : Ast F} {n : String} (h : execAst rates conv vs (.assignment n e) = .ok (v, vs')) :
    ∃ vs1, execAst rates conv vs e = .ok (v, vs1) ∧
      vs' = match vs1.get? n with | some info => vs1.insert n { info with data := v } | none => vs1 := by
  unfold execAst at h
  obtain ⟨⟨w, vs1⟩, he, h⟩ := bind_ok h
  dsimp only at h
  cases hg : vs1.get? n <;> rw [hg] at h <;> cases h <;> exact ⟨_, he, by rw [hg]⟩

/-- All `execAst` does to the variables is to overwrite the data of bound names that the AST assigns: a predicate
    that such stores keep is kept by evaluation.  (`exec_frame`, `exec_noassign` and `VarInvariant.execAst_names`
    are the instances `·.get? k = vs.get? k`, `· = vs` and `NamesOK`.) -/
theorem exec_preserves (P : Vars F → Prop) (a : Ast F)
    (hP : ∀ m n info w, Assigns n a → m.get? n = some info → P m → P (m.insert n { info with data := w }))
    (h : execAst rates conv vs a = .ok (v, vs')) (h0 : P vs) : P vs' := by
  induction a generalizing vs vs' v with
  | binary l op r ihl ihr =>
    obtain ⟨lv, vs1, rv, hl, hr⟩ := exec_binary_ok h
    exact ihr (fun m n i w hn => hP m n i w (.inr hn)) hr (ihl (fun m n i w hn => hP m n i w (.inl hn)) hl h0)
  | prefixUnary op a ih =>
    obtain ⟨av, ha⟩ := exec_prefix_ok h
    exact ih hP ha h0
  | assignment n e ih =>
    obtain ⟨vs1, he, rfl⟩ := exec_assign_ok h
    have h1 := ih (fun m n i w hn => hP m n i w (.inr hn)) he h0
    split
    · exact hP _ _ _ _ (.inl rfl) ‹_› h1
    · exact h1
  | var n => unfold execAst at h; split at h <;> cases h <;> exact h0
  | _ => cases h; exact h0

end

theorem assign_frame (rates : List (String × F)) (conv) (vs vs' vs'' : Vars F) (name other : String) (e : Ast F)
    (v w : Val F)
    (he : execAst rates conv vs e = .ok (v, vs'))
    (ha : execAst rates conv vs (.assignment name e) = .ok (w, vs'')) (hne : other ≠ name) :
    vs''.get? other = vs'.get? other := by
  obtain ⟨vs1, he', rfl⟩ := exec_assign_ok ha
  cases he.symm.trans he'
  split
  · rw [get_insert, if_neg hne]
  · rfl

theorem exec_frame (rates : List (String × F)) (conv) (vs vs' : Vars F) (a : Ast F) (v : Val F) (k : String)
    (hna : ¬ Assigns k a) (h : execAst rates conv vs a = .ok (v, vs')) : vs'.get? k = vs.get? k :=
  exec_preserves (·.get? k = vs.get? k) a
    (fun m n _ _ hn _ hm => by rw [get_insert, if_neg (fun e : k = n => hna (e ▸ hn)), hm]) h rfl

theorem exec_noassign (rates : List (String × F)) (conv) (vs vs' : Vars F) (a : Ast F) (v : Val F)
    (hna : NoAssign a) (h : execAst rates conv vs a = .ok (v, vs')) : vs' = vs :=
  exec_preserves (· = vs) a (fun _ n _ _ hn => absurd hn (hna.not_assigns n)) h rfl

/-- A binding holds a value, not a reference: after `a = e` (which may read `b` or anything
    else), the value bound to any other name `b` is exactly what it was. -/
theorem value_not_reference (rates : List (String × F)) (conv) (vs vs' : Vars F) (a b : String) (e : Ast F)
    (w : Val F) (hna : NoAssign e)
    (h : execAst rates conv vs (.assignment a e) = .ok (w, vs')) (hne : b ≠ a) :
    vs'.get? b = vs.get? b :=
  exec_frame rates conv vs vs' (.assignment a e) w b
    (fun hb : a = b ∨ Assigns b e => hb.elim (fun e => hne e.symm) (hna.not_assigns b)) h

/-- `a = a + k`: the right-hand side reads the OLD value of `a`, the sum is stored afterwards -/
theorem self_reference (rates : List (String × F)) (conv) (vs : Vars F) (a : String) (info : VarInfo F)
    (x k : F) (t : NumType) (h : vs.get? a = some info) (hd : info.data = .item (.number x t)) :
    ∃ vs', execAst rates conv vs (.assignment a (.binary (.var a) .plus (.item (.number k .decimal))))
        = .ok (.item (.number (Num.add x k) t), vs') ∧
      vs'.get? a = some { info with data := .item (.number (Num.add x k) t) } := by
  refine assign_stores rates conv vs vs a _ _ info ?_ h
  -- the right-hand side: the use reads what the map holds, the sum is computed, the map is as it was
  unfold execAst
  rw [use_sees_latest rates conv vs a info h, hd]
  rfl

theorem parseLine_vars {vs vs' : Vars F} {toks : List (Tok F)} {ast : Ast F} (h : parseLine vs toks = .ok (ast, vs')) :
    vs' = vs ∨ ∃ name, lineName toks = some name ∧ vs.get? (varKey name) = none ∧
      vs' = vs.insert (varKey name) { toks := name, data := .none } := by
  unfold parseLine at h
  split at h
  · rename_i ha
    split at h
    · cases h
    · split at h <;> cases h
      exact .inl rfl
    · simp only [Except.ok.injEq] at h
      rw [show vs' = _ from (congrArg Prod.snd h).symm]
      unfold registerVar
      split
      · exact .inl rfl
      · exact .inr ⟨_, by simp [lineName, ha], ‹_›, rfl⟩
  · split at h <;> cases h
    exact .inl rfl

theorem parseLine_frame (vs vs' : Vars F) (toks : List (Tok F)) (ast : Ast F) (k : String) (info : VarInfo F)
    (h : parseLine vs toks = .ok (ast, vs')) (hk : vs.get? k = some info) : vs'.get? k = some info := by
  obtain rfl | ⟨name, _, hnone, rfl⟩ := parseLine_vars h
  · exact hk
  · rw [get_insert, if_neg (fun e => by rw [e, hnone] at hk; cases hk), hk]

/-- A line that fails — at parse time or at evaluation time — or yields nothing leaves every
    existing binding unchanged (a failed assignment to a NEW name may register that name without
    a value). -/
theorem failed_line_frame (c : Cfg F) (lang : String) (now : Now) (vs : Vars F) (infos : List (TokInfo F))
    (k : String) (info : VarInfo F) (hk : vs.get? k = some info)
    (hfail : ∀ v i t, (evalInfos c lang now vs infos).2 ≠ some (.ok v, i, t)) :
    (evalInfos c lang now vs infos).1.get? k = some info := by
  unfold evalInfos evalTokens at hfail ⊢
  split
  · exact hk
  · split
    · exact hk
    · rename_i ast vs' hp
      split
      · exact parseLine_frame vs vs' _ ast k info hp hk
      · rename_i hne _ _ v vs'' he
        exfalso
        simp only [hne, hp, he] at hfail
        exact hfail v _ _ rfl

theorem matchesAt_nil (name : List (Tok F)) : matchesAt ([] : List (TokInfo F)) name = name.isEmpty := by
  cases name <;> rfl

/-- `find_location` is the search for the first position of the text, its end included, at which the name matches:
    `List.find?` over the positions.  What it returns is then what core says of `find?` on a `range`. -/
theorem findLocation_eq (toks : List (TokInfo F)) (name : List (Tok F)) :
    findLocation toks name = (List.range (toks.length + 1)).find? fun i => matchesAt (toks.drop i) name := by
  fun_induction findLocation toks name with
  | case1 h | case2 h => simp [matchesAt_nil, h]                                     -- empty text: position 0 or nothing
  | case3 t rest hm => simp [List.range_succ_eq_map (n := rest.length + 1), hm]      -- the name matches at the head
  | case4 t rest hm ih =>                                                            -- it does not: one more than in the tail
    rw [List.length_cons, List.range_succ_eq_map, List.find?_cons_of_neg (by simpa using hm), List.find?_map, ih]
    rfl

theorem findLocation_some_iff (toks : List (TokInfo F)) (name : List (Tok F)) (i : Nat) :
    findLocation toks name = some i ↔
      (i ≤ toks.length ∧ matchesAt (toks.drop i) name = true ∧ ∀ j, j < i → matchesAt (toks.drop j) name = false)
      ∧ (toks = [] → name = []) := by
  rw [findLocation_eq, List.find?_range_eq_some]
  -- the last clause says nothing new: in an empty text only position 0 is left, and only the empty name matches there
  refine Iff.trans ?_ (and_iff_left_of_imp ?_).symm
  · simp [Nat.lt_succ_iff, and_left_comm]
  · rintro ⟨-, h, -⟩ rfl
    simpa [matchesAt_nil] using h

/-- the order of the selection: `r` starts no later than `c` and, at the same index, is at least as long -/
def Before (r c : Cand) : Prop := r.1 ≤ c.1 ∧ (c.1 = r.1 → c.2.2 ≤ r.2.2)

theorem pickBest_some (b : Cand) (cs : List Cand) (r : Cand) (h : pickBest (some b) cs = some r) :
    r ∈ b :: cs ∧ Before r b ∧ ∀ c ∈ cs, Before r c := by
  induction cs generalizing b with
  | nil =>
    cases h
    exact ⟨List.mem_cons_self, ⟨Nat.le_refl _, fun _ => Nat.le_refl _⟩, nofun⟩
  | cons c cs ih =>
    rw [pickBest] at h
    -- `r` is before the kept one of `b`, `c`, and `better` says that the kept one is before the other
    split at h <;> obtain ⟨hm, hk, hmin⟩ := ih _ h <;> rename_i hb <;>
      simp only [better, Before, Bool.or_eq_true, Bool.and_eq_true, decide_eq_true_eq] at hb hk ⊢
    · exact ⟨List.mem_cons_of_mem _ hm, by omega, List.forall_mem_cons.2 ⟨hk, hmin⟩⟩                  -- `c` is better: kept for `b`
    · exact ⟨List.cons_subset_cons b (List.subset_cons_self c cs) hm, hk, List.forall_mem_cons.2 ⟨by omega, hmin⟩⟩   -- `b` stays

/-- the candidate `pickBest` returns is one of the candidates, starts no later than any other
    candidate, and is at least as long as every candidate starting at the same position -/
theorem pickBest_spec (cs : List Cand) (b0 : Option Cand) (r : Cand)
    (h : pickBest b0 cs = some r) :
    (b0 = some r ∨ r ∈ cs) ∧
    (∀ c, (b0 = some c ∨ c ∈ cs) → r.1 ≤ c.1 ∧ (c.1 = r.1 → c.2.2 ≤ r.2.2)) := by
  match b0, cs with
  | none, [] => cases h
  | none, c :: cs =>
    obtain ⟨hm, hk, hmin⟩ := pickBest_some c cs r h
    exact ⟨.inr hm, fun d hd => List.forall_mem_cons.2 ⟨hk, hmin⟩ d (hd.resolve_left nofun)⟩
  | some b, cs =>
    obtain ⟨hm, hk, hmin⟩ := pickBest_some b cs r h
    exact ⟨(List.mem_cons.1 hm).imp (congrArg some ·.symm) id,
      fun d hd => hd.elim (fun e => Option.some.inj e ▸ hk) (hmin d)⟩

example : (Vars.insert ([] : Vars Rat) "a" ⟨[], .item (.number 1 .decimal)⟩).get? "a" =
    some ⟨[], .item (.number 1 .decimal)⟩ := by simp [get_insert]

end SCP.C03
