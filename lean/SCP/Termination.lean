/-
  SCP.Termination — the rewrite loops reach their fixpoint (C01, termination clause, on the model).

  The implementation's `rule_tokinizer` and `dynamic_type_tokinizer` repeat their pass while a
  pattern fired, without any bound; the model (`ruleLoop`, `unitLoop`) carries a fuel of
  `number of infos + 1`.  For every number type and every rule set — configured, user-registered or both — whose patterns
  have at least two tokens: the measure `mu` is the number of live (Active, typed) infos; a completed `find_match` covers at
  least `pattern length` of them and replacing them by one token takes them out and adds one (SCP.Lemmas.Termination), so a
  pass that fired lowers `mu` and one that did not returns its input (`rulePass_mu`, `unitPass_mu`); hence once the fuel
  exceeds `mu` more fuel changes nothing (`ruleLoop_stable`, `unitLoop_stable`: the loop TERMINATES after at most `mu`
  firing passes), and the model's fuel always exceeds `mu` (`model_fuel_suffices`).

  Data obligation (re-decided on the regenerated tables: `gen_rules_ok`, `gen_units_ok`): every
  configured rule, unit and date pattern has at least two tokens.  A user-registered pattern with a
  single token whose rule returns a token that matches it again would loop forever in the
  implementation; that is outside the hypothesis and is stated in DESIGN.md.
-/
import SC.Engine
import SC.Gen.Config
import SCP.Lemmas.Termination
import SCP.Lemmas.Fuel
import SCP.Lemmas.Pass
namespace SCP.Termination
open SC
open SCP.Lemmas SCP.Lemmas.Termination
variable {F : Type} [Num F]
set_option linter.unusedSectionVars false

theorem model_fuel_suffices (infos : List (TokInfo F)) : mu infos < infos.length + 1 := by
  rw [mu_eq]; exact Nat.lt_succ_of_le List.countP_le_length

theorem replace_lowers (vs : Vars F) (p infos : List (TokInfo F)) (t : Tok F) (hp : 2 ≤ p.length)
    (hf : (findMatch vs p infos).found = true) : mu (replaceRange infos (findMatch vs p infos) t) < mu infos := by
  obtain ⟨_, _, hc⟩ := findMatch_count vs p infos (by omega) hf
  have := replaceRange_mu infos (findMatch vs p infos) t
  omega

/-- what a pass knows about its accumulator `(infos so far, has a pattern fired)`, relative to its input -/
def PassInv (infos : List (TokInfo F)) (acc : List (TokInfo F) × Bool) : Prop :=
  (acc.2 = true → mu acc.1 < mu infos) ∧ (acc.2 = false → acc.1 = infos)

/-- The `match` is written as the fold bodies of `rulePass` / `unitPass` have it, so that it unifies with them. -/
theorem PassInv.step {infos : List (TokInfo F)} {acc : List (TokInfo F) × Bool} (h : PassInv infos acc)
    (t : Option (List (TokInfo F))) (hlow : ∀ x, t = some x → mu x < mu acc.1) :
    PassInv infos (match (generalizing := false) t with | some x => (x, true) | none => acc) := by
  cases t with
  | none => exact h
  | some x =>
    refine ⟨fun _ => ?_, fun hf => by cases hf⟩
    show mu x < mu infos
    have := hlow x rfl
    cases hacc : acc.2 with
    | true => have := h.1 hacc; omega
    | false => rw [h.2 hacc] at this; exact this

theorem firing_lowers {vs : Vars F} {f : Match F → Option (Tok F)} {pats : List (List (TokInfo F))} {infos infos' : List (TokInfo F)}
    (hp : ∀ p ∈ pats, 2 ≤ p.length) (h : firstFiring vs f pats infos = some infos') : mu infos' < mu infos := by
  obtain ⟨p, hpm, t, hf, rfl⟩ := firstFiring_some h
  exact replace_lowers vs p infos t (hp p hpm) hf

def PatsOK (rules : List (Rule F)) : Prop := ∀ r ∈ rules, ∀ p ∈ r.patterns, 2 ≤ p.length

theorem rulePass_mu (c : Cfg F) (lang : String) (now : Now) (vs : Vars F) (rules : List (Rule F)) (hok : PatsOK rules)
    (infos : List (TokInfo F)) :
    ((rulePass c lang now vs rules infos).2 = true → mu (rulePass c lang now vs rules infos).1 < mu infos) ∧
    ((rulePass c lang now vs rules infos).2 = false → (rulePass c lang now vs rules infos).1 = infos) := by
  -- `PassInv infos` holds of the start `(infos, false)` and is kept by every rule of the fold
  refine List.foldlRecOn (motive := PassInv infos) rules _ ⟨nofun, fun _ => rfl⟩ fun acc hacc r hr => ?_
  refine hacc.step _ fun x hx => ?_
  rw [rule_tryPats_eq] at hx
  exact firing_lowers (hok r hr) hx

/-- termination of the rule loop: once the fuel exceeds the number of live infos, any further fuel
    is unused — the loop has stopped because no pattern fires any more -/
theorem ruleLoop_stable (c : Cfg F) (lang : String) (now : Now) (vs : Vars F) (rules : List (Rule F)) (hok : PatsOK rules) :
    ∀ (fuel : Nat) (infos : List (TokInfo F)) (k : Nat), mu infos < fuel →
      ruleLoop c lang now vs rules (fuel + k) infos = ruleLoop c lang now vs rules fuel infos := by
  refine fuel_stable _ mu fun infos => ?_
  cases hf : (rulePass c lang now vs rules infos).2 with
  | false => exact .inr fun m m' => by simp [ruleLoop, hf]
  | true => exact .inl ⟨_, (rulePass_mu c lang now vs rules hok infos).1 hf, fun m => by simp [ruleLoop, hf]⟩

/-- in particular the fuel of `rewriteInfos` is never exhausted -/
theorem ruleLoop_model_fuel (c : Cfg F) (lang : String) (now : Now) (vs : Vars F) (rules : List (Rule F)) (hok : PatsOK rules)
    (infos : List (TokInfo F)) (k : Nat) :
    ruleLoop c lang now vs rules (infos.length + 1 + k) infos = ruleLoop c lang now vs rules (infos.length + 1) infos :=
  ruleLoop_stable c lang now vs rules hok _ infos k (model_fuel_suffices infos)

def UnitsOK (c : Cfg F) : Prop := ∀ fam ∈ c.units, ∀ it ∈ fam.2, ∀ p ∈ it.parse, 2 ≤ p.length

theorem unitPass_mu (c : Cfg F) (vs : Vars F) (hok : UnitsOK c) (infos : List (TokInfo F)) :
    ((unitPass c vs infos).2 = true → mu (unitPass c vs infos).1 < mu infos) ∧
    ((unitPass c vs infos).2 = false → (unitPass c vs infos).1 = infos) := by
  -- the same invariant through the fold over the families and, inside it, the fold over the items of a family
  refine List.foldlRecOn (motive := PassInv infos) c.units _ ⟨nofun, fun _ => rfl⟩ fun acc hacc fam hfam => ?_
  refine List.foldlRecOn (motive := PassInv infos) fam.2 _ hacc fun acc hacc it hit => ?_
  refine hacc.step _ fun x hx => ?_
  rw [unit_tryPats_eq] at hx
  exact firing_lowers (hok fam hfam it hit) hx

theorem unitLoop_stable (c : Cfg F) (vs : Vars F) (hok : UnitsOK c) :
    ∀ (fuel : Nat) (infos : List (TokInfo F)) (k : Nat), mu infos < fuel →
      unitLoop c vs (fuel + k) infos = unitLoop c vs fuel infos := by
  refine fuel_stable _ mu fun infos => ?_
  cases hf : (unitPass c vs infos).2 with
  | false => exact .inr fun m m' => by simp [unitLoop, hf]
  | true => exact .inl ⟨_, (unitPass_mu c vs hok infos).1 hf, fun m => by simp [unitLoop, hf]⟩

theorem gen_rules_ok : ∀ l ∈ (Gen.cfg Rat).langs, PatsOK l.rules := by
  have h : (Gen.cfg Rat).langs.all (fun l => l.rules.all fun r => r.patterns.all fun p => decide (2 ≤ p.length)) = true := by
    decide +kernel
  simpa [PatsOK, List.all_eq_true] using h

theorem gen_units_ok : UnitsOK (Gen.cfg Rat) := by
  have h : (Gen.cfg Rat).units.all (fun fam => fam.2.all fun it => it.parse.all fun p => decide (2 ≤ p.length)) = true := by
    decide +kernel
  simpa [UnitsOK, List.all_eq_true] using h

end SCP.Termination
