/-
  SCP.C07 — numbers print correctly rounded, grouped and signed in every format setting.

  `formatNumber` (SC.Format) takes sign, integer digits and fraction from ONE digit string (`Num.fixed |x| N`, i.e. Rust's
  `{:.N}`).  That string is the decimal nearest to the exact value num/den, ties to even (`roundQuot_nearest`,
  `roundQuot_tie_even`, `fixedParts_value`) — for the model's soft-float function; Rust's formatter is assumed to agree, and
  every run validates that.  A digit string reads back to the number it was made from in the bases 2..16
  (`radixValue_radixDigits`), grouping only inserts separators (`group_ungroup`, `group_shape`), and `format_shape` says how
  the pieces are put together.
-/
import SC.Format

namespace SCP.Lemmas.C07
open SC
theorem radixValue_nil (b : Nat) : radixValue b [] = 0 := rfl
end SCP.Lemmas.C07

namespace SCP.C07
open SC

theorem digitOf_radixDigit (d : Nat) (h : d < 16) : digitOf (radixDigit d) = d := by
  revert d; decide

theorem radixValue_append (b : Nat) (xs : List Char) (c : Char) :
    radixValue b (xs ++ [c]) = radixValue b xs * b + digitOf c := by
  simp [radixValue, List.foldl_append]

theorem radixValue_natToRadix (b : Nat) (hb : 2 ≤ b) (hb' : b ≤ 16) (fuel n : Nat) (h : n < fuel) :
    radixValue b (natToRadix b fuel n) = n := by
  fun_induction natToRadix b fuel n with
  | case1 => omega
  | case2 => rfl
  | case3 fuel n hn ih =>
    -- the digits of `n / b`, which is smaller than `n`, then the digit `n % b`
    have hq : n / b < fuel := Nat.lt_of_lt_of_le (Nat.div_lt_self (Nat.pos_of_ne_zero hn) hb) (Nat.le_of_lt_succ h)
    have hr : n % b < 16 := Nat.lt_of_lt_of_le (Nat.mod_lt n (Nat.zero_lt_of_lt hb)) hb'
    rw [radixValue_append, ih hq, digitOf_radixDigit _ hr]
    exact Nat.div_add_mod' n b

theorem radixValue_radixDigits (b n : Nat) (hb : 2 ≤ b) (hb' : b ≤ 16) :
    radixValue b (radixDigits b n) = n := by
  unfold radixDigits
  by_cases hn : n = 0
  · subst hn; simp [radixValue, show digitOf '0' = 0 by decide]
  · rw [if_neg hn]; exact radixValue_natToRadix b hb hb' _ _ (by omega)

theorem radixDigits_ne_nil (b n : Nat) : radixDigits b n ≠ [] := by
  unfold radixDigits
  by_cases hn : n = 0
  · simp [hn]
  · simp [hn, natToRadix]

theorem natToRadix_length (b : Nat) (hb : 0 < b) (fuel m k : Nat) (h : m < b ^ k) :
    (natToRadix b fuel m).length ≤ k := by
  fun_induction natToRadix b fuel m generalizing k with
  | case1 => exact Nat.zero_le k
  | case2 => exact Nat.zero_le k
  | case3 fuel m hm ih =>
    cases k with
    | zero => exact absurd (Nat.lt_one_iff.mp h) hm
    | succ k =>   -- one digit for `m % b` behind those of `m / b < b ^ k`
      rw [List.length_append]
      exact Nat.succ_le_succ (ih k ((Nat.div_lt_iff_lt_mul hb).mpr h))

theorem radixDigits_length (b : Nat) (hb : 2 ≤ b) (m k : Nat) (hk : 0 < k) (h : m < b ^ k) :
    (radixDigits b m).length ≤ k := by
  unfold radixDigits
  by_cases hm : m = 0
  · simp [hm]; omega
  · rw [if_neg hm]; exact natToRadix_length b (Nat.zero_lt_of_lt hb) _ _ _ h

theorem radixValue_padZeros (b w : Nat) (ds : List Char) :
    radixValue b (padZeros w ds) = radixValue b ds := by
  unfold padZeros
  induction w - ds.length with
  | zero => simp
  | succ k ih =>
    simp only [radixValue, List.replicate_succ, List.cons_append, List.foldl_cons] at ih ⊢
    simpa [show digitOf '0' = 0 by decide] using ih

theorem padZeros_length (w : Nat) (ds : List Char) (h : ds.length ≤ w) :
    (padZeros w ds).length = w := by
  rw [padZeros, List.length_append, List.length_replicate, Nat.sub_add_cancel h]

/-- the rounding `fixedParts` does (`fixedParts_eq`) -/
def roundQuot (scaled den : Nat) : Nat :=
  let q := scaled / den
  let r := scaled % den
  if 2 * r > den || (2 * r = den && q % 2 = 1) then q + 1 else q

theorem roundQuot_eq (s d : Nat) :
    roundQuot s d = if d < 2 * (s % d) ∨ 2 * (s % d) = d ∧ s / d % 2 = 1 then s / d + 1 else s / d := by
  simp [roundQuot]

/-- `roundQuot` is a nearest integer to scaled/den: the error is at most one half (in `Nat`, so one of the two differences is 0) … -/
theorem roundQuot_nearest (scaled den : Nat) (hd : 0 < den) :
    2 * (roundQuot scaled den * den - scaled) ≤ den ∧ 2 * (scaled - roundQuot scaled den * den) ≤ den := by
  have h1 := Nat.div_add_mod' scaled den
  have h2 := Nat.mod_lt scaled hd
  rw [roundQuot_eq]
  generalize scaled / den = q at *
  generalize scaled % den = r at *
  subst h1
  clear hd
  split
  · -- rounded up: the error is `den - r`, and `den ≤ 2 * r`
    rw [Nat.add_one_mul q]
    generalize q * den = p
    omega
  · -- rounded down: the error is `r`, and `2 * r ≤ den`
    generalize q * den = p
    omega

set_option linter.unusedVariables false in
/-- … and an exact tie goes to the even neighbour (`hd` is not needed) -/
theorem roundQuot_tie_even (scaled den : Nat) (hd : 0 < den) (htie : 2 * (scaled % den) = den) :
    roundQuot scaled den % 2 = 0 := by
  rw [roundQuot_eq]
  by_cases hq : scaled / den % 2 = 1
  · rw [if_pos (Or.inr ⟨htie, hq⟩), Nat.add_mod, hq]
  · rw [if_neg (not_or.mpr ⟨fun h => Nat.ne_of_gt h htie, fun h => hq h.2⟩)]
    exact Nat.mod_two_ne_one.mp hq

theorem roundQuot_mul (q den : Nat) (hd : 0 < den) : roundQuot (q * den) den = q := by
  rw [roundQuot_eq, Nat.mul_mod_left, Nat.mul_div_cancel q hd, if_neg (by omega)]

theorem fixedParts_eq (num den n : Nat) :
    fixedParts num den n =
      (natToDigits (roundQuot (num * 10 ^ n) den / 10 ^ n),
        if n = 0 then [] else padZeros n (natToDigits (roundQuot (num * 10 ^ n) den % 10 ^ n))) := rfl

/-- the digits `fixedParts` returns are those of the rounded quotient: integer part and exactly
    `n` fraction digits -/
theorem fixedParts_value (num den n : Nat) (hn : 0 < n) :
    let p := fixedParts num den n
    radixValue 10 p.1 * 10 ^ n + radixValue 10 p.2 = roundQuot (num * 10 ^ n) den ∧ p.2.length = n := by
  intro p
  simp only [p, fixedParts_eq, if_neg (Nat.ne_of_gt hn), natToDigits]
  generalize roundQuot (num * 10 ^ n) den = q
  have hlt : q % 10 ^ n < 10 ^ n := Nat.mod_lt _ (Nat.pow_pos (by omega))
  constructor
  · rw [radixValue_padZeros, radixValue_radixDigits 10 _ (by decide) (by decide),
      radixValue_radixDigits 10 _ (by decide) (by decide)]
    exact Nat.div_add_mod' q (10 ^ n)
  · exact padZeros_length _ _ (radixDigits_length 10 (by omega) _ _ hn hlt)

theorem mem_natToRadix (b : Nat) (hb : 0 < b) (fuel n : Nat) :
    ∀ c ∈ natToRadix b fuel n, ∃ d < b, c = radixDigit d := by
  fun_induction natToRadix b fuel n with
  | case1 => simp
  | case2 => simp
  | case3 fuel n hn ih =>
    intro c hc
    rcases List.mem_append.mp hc with h | h
    · exact ih c h
    · exact ⟨n % b, Nat.mod_lt n hb, List.mem_singleton.mp h⟩

theorem mem_radixDigits (b : Nat) (hb : 0 < b) (n : Nat) :
    ∀ c ∈ radixDigits b n, ∃ d < b, c = radixDigit d := by
  unfold radixDigits
  split
  · intro c hc; exact ⟨0, hb, List.mem_singleton.mp hc⟩
  · exact mem_natToRadix b hb _ n

theorem isDigit_radixDigits (n : Nat) : ∀ c ∈ radixDigits 10 n, isDigit c = true := by
  intro c hc
  obtain ⟨d, hd, rfl⟩ := mem_radixDigits 10 (by omega) n c hc
  exact (by decide : ∀ d < 10, isDigit (radixDigit d) = true) d hd

theorem fixedParts_isDigit (num den n : Nat) :
    ∀ c ∈ (fixedParts num den n).1 ++ (fixedParts num den n).2, isDigit c = true := by
  intro c hc
  rw [fixedParts_eq, List.mem_append] at hc
  rcases hc with h | h
  · exact isDigit_radixDigits _ c h
  · split at h
    · simp at h
    · rcases List.mem_append.mp h with h | h
      · rw [List.eq_of_mem_replicate h]; rfl
      · exact isDigit_radixDigits _ c h

theorem groupThousands_cons (sep : List Char) (c : Char) (cs : List Char) :
    groupThousands sep (c :: cs) =
      if cs ≠ [] ∧ cs.length % 3 = 0 then c :: sep ++ groupThousands sep cs
      else c :: groupThousands sep cs := by
  simp [groupThousands, List.length_pos_iff]

def ungroup (sep : Char) (cs : List Char) : List Char := cs.filter (· ≠ sep)

theorem group_ungroup (sep : Char) (ds : List Char) (h : sep ∉ ds) :
    ungroup sep (groupThousands [sep] ds) = ds := by
  unfold ungroup
  induction ds with
  | nil => rfl
  | cons c cs ih =>
    have ⟨hc, hcs⟩ := List.ne_and_not_mem_of_not_mem_cons h
    rw [groupThousands_cons]
    split <;> simpa [hc.symm] using ih hcs

theorem group_empty_sep (ds : List Char) : groupThousands [] ds = ds := by
  induction ds with
  | nil => rfl
  | cons c cs ih => rw [groupThousands_cons, ih]; exact ite_self _

/-- shape: the grouped string is the digits cut into groups from the right — the first group
    has 1..3 digits, every further group exactly 3 — joined by the separator -/
def groupsFromRight : List Char → List (List Char)
  | [] => []
  | ds =>
    let k := (ds.length - 1) % 3 + 1
    ds.take k :: chunks3 (ds.drop k)
where
  chunks3 : List Char → List (List Char)
    | a :: b :: c :: rest => [a, b, c] :: chunks3 rest
    | _ => []

open groupsFromRight (chunks3)

theorem groupsFromRight_cons (c : Char) (cs : List Char) :
    groupsFromRight (c :: cs) = (c :: cs.take (cs.length % 3)) :: chunks3 (cs.drop (cs.length % 3)) := rfl

theorem groupsFromRight_cons_of_mod_zero (c : Char) : ∀ cs : List Char, cs.length % 3 = 0 →
    groupsFromRight (c :: cs) = [c] :: groupsFromRight cs
  | [], _ => rfl
  | [_], h => nomatch h
  | [_, _], h => nomatch h
  | x :: y :: z :: rest, h => by
    have h2 : (y :: z :: rest).length % 3 = 2 := by
      simp only [List.length_cons] at h ⊢; omega
    rw [groupsFromRight_cons, h, groupsFromRight_cons, h2]
    rfl

theorem groupsFromRight_cons_of_mod_ne (c : Char) (cs : List Char) (h : cs.length % 3 ≠ 0) :
    ∃ g gs, groupsFromRight cs = g :: gs ∧ groupsFromRight (c :: cs) = (c :: g) :: gs := by
  cases cs with
  | nil => exact absurd rfl h
  | cons d ds =>
    refine ⟨_, _, groupsFromRight_cons d ds, ?_⟩
    -- `(|ds| + 1) % 3 = |ds| % 3 + 1`: the sum is at most 3, and 3 would contradict `h` (`omega` proves it at four times the cost)
    rw [List.length_cons, Nat.add_mod] at h
    rw [groupsFromRight_cons, List.length_cons, Nat.add_mod,
      Nat.mod_eq_of_lt (Nat.lt_of_le_of_ne (Nat.mod_lt _ (by decide)) fun e => h (congrArg (· % 3) e))]
    rfl

theorem group_shape (sep ds : List Char) :
    groupThousands sep ds = List.intercalate sep (groupsFromRight ds) := by
  induction ds with
  | nil => rfl
  | cons c cs ih =>
    rw [groupThousands_cons, ih]
    by_cases hm : cs.length % 3 = 0
    · rw [groupsFromRight_cons_of_mod_zero c cs hm]   -- `c` is a group of its own: a separator follows it unless it is the last
      cases cs with
      | nil => rfl
      | cons d ds =>
        rw [if_pos ⟨List.cons_ne_nil _ _, hm⟩, groupsFromRight_cons d ds, List.intercalate_cons_cons]
        rfl
    · obtain ⟨g, gs, e1, e2⟩ := groupsFromRight_cons_of_mod_ne c cs hm   -- `c` joins the first group: no separator
      rw [if_neg (fun h => hm h.2), e1, e2, List.intercalate_cons_cons_left]

theorem flatten_eq_intercalate {α : Type} : ∀ L : List (List α), L.flatten = [].intercalate L
  | [] => rfl
  | [l] => by simp
  | l :: l' :: L => by rw [List.intercalate_cons_cons, ← flatten_eq_intercalate (l' :: L), List.append_nil, List.flatten_cons]

theorem groupsFromRight_flatten (ds : List Char) : (groupsFromRight ds).flatten = ds := by
  -- the flattened groups are the groups joined by the empty separator
  rw [flatten_eq_intercalate, ← group_shape, group_empty_sep]

/-- `format_number` is: '-' for negative values that show a non-zero digit, the grouped integer digits, and the decimal
    separator with the fraction digits unless there are none or removal is enabled and all
    printed fraction digits are zero. -/
theorem format_shape {F : Type} [Num F] (x : F) (thou dec : String) (digits : Nat) (removeZero rounding : Bool) :
    let s := (if rounding then Num.fixed (Num.abs x) digits else Num.short (Num.abs x)).toList
    formatNumber x thou dec digits removeZero rounding =
      String.ofList ((if Num.lt x (Num.ofInt 0) && s.any (fun c => c != '0' && c != '.') then ['-'] else []) ++
        groupThousands thou.toList (splitDot s).1 ++
        (if (splitDot s).2.isEmpty || (removeZero && allZero (splitDot s).2) then [] else dec.toList ++ (splitDot s).2)) := by
  intro s
  show String.ofList (_ ++ groupThousands thou.toList (splitDot s).1 ++
      (if !(splitDot s).2.isEmpty && !(removeZero && allZero (splitDot s).2) then dec.toList ++ (splitDot s).2 else [])) = _
  cases (splitDot s).2.isEmpty <;> cases removeZero <;> cases allZero (splitDot s).2 <;> rfl

theorem splitDot_join (ip fp : List Char) (h : '.' ∉ ip) : splitDot (ip ++ '.' :: fp) = (ip, fp) := by
  have hp : ∀ a ∈ ip, (decide (a ≠ '.')) = true := by
    intro a ha; simp; intro e; exact h (e ▸ ha)
  unfold splitDot
  rw [List.takeWhile_append_of_pos hp, List.dropWhile_append_of_pos hp]
  simp

/-! non-vacuity: the classic boundary cases, over exact rationals -/
example : formatNumber (199 / 200 : Rat) "." "," 2 true true = "1" := by decide +kernel       -- 0.995 -> 1,00 -> "1"
example : formatNumber (1234567 / 100 : Rat) "." "," 2 true true = "12.345,67" := by decide +kernel
example : formatNumber (-1 / 2 : Rat) "." "," 0 false true = "0" := by decide +kernel         -- tie to even; no sign on zero digits
example : formatNumber (-3 / 2 : Rat) "." "," 0 false true = "-2" := by decide +kernel
example : formatNumber (5 / 2 : Rat) "." "," 0 false true = "2" := by decide +kernel

end SCP.C07
