/-
  SCP.C13 — Based integer literals and base conversion round-trip.

  `printBased` (SC.Format) prints a non-negative integral value with prefix 0b / 0o / 0x and
  `radixDigits`; the lexer glue reads `radixValue` of the digits (`parse_radix` in /repo: the nearest double of
  the integer the digits denote).  For EVERY natural number and every base 2 / 8 / 16 reading the printed digits gives the same
  number (`print_read`); both letter cases of a hex digit are accepted when reading (`digitOf_lower`); `N to hex` prints
  `round N`, half away from zero, over `Rat` (`convert_rounds`).
-/
import SC.Format
import SC.Rules
import SCP.C07
import SCP.C05
import SCP.Lemmas.C13
namespace SCP.C13
open SC
open SCP.Lemmas.C13

def basedDigits (t : NumType) (n : Nat) : List Char :=
  match t with
  | .binary => radixDigits 2 n
  | .octal => radixDigits 8 n
  | _ => radixDigits 16 n

def baseOf : NumType → Nat
  | .binary => 2 | .octal => 8 | _ => 16

theorem print_read (t : NumType) (n : Nat) : radixValue (baseOf t) (basedDigits t n) = n := by
  cases t <;> exact SCP.C07.radixValue_radixDigits _ n (by decide) (by decide)

theorem printBased_nat (n : Nat) (t : NumType) (ht : t = .binary ∨ t = .octal ∨ t = .hex) :
    printBased ((n : Int) : Rat) t =
      (match t with | .binary => "0b" | .octal => "0o" | _ => "0x") ++ String.ofList (basedDigits t n) := by
  have h1 : Num.truncInt ((n : Int) : Rat) = (n : Int) := toInt_intCast n
  rcases ht with rfl | rfl | rfl <;> simp [printBased, h1, lt_zero_natCast, basedDigits]

/-- reading accepts lower-case hex digits with the same value as upper-case ones -/
theorem digitOf_lower (d : Nat) (h : 10 ≤ d ∧ d < 16) :
    digitOf (Char.ofNat (87 + d)) = d ∧ digitOf (Char.ofNat (55 + d)) = d := by
  have key : ∀ d, d < 16 → 10 ≤ d →
      digitOf (Char.ofNat (87 + d)) = d ∧ digitOf (Char.ofNat (55 + d)) = d := by decide
  exact key d h.2 h.1

theorem basedDigits_ne_nil (t : NumType) (n : Nat) : basedDigits t n ≠ [] := by
  cases t <;> exact SCP.C07.radixDigits_ne_nil _ n

/-- `N to hex` (rule `number_type_convert`; stated for the word "hex"): the value is rounded half away from zero and
    tagged with the target base -/
theorem convert_rounds (c : Cfg Rat) (lang : String) (now : Now) (vs : Vars Rat) (x : Rat) :
    applyRule c lang now vs .numberTypeConvert
        [("number", SCP.C05.ti (SCP.C05.num x)), ("type", SCP.C05.tiText "hex")] =
      some (.item (.number (Num.round x) .hex)) := by
  simp [rules]

theorem round_half_away (k : Int) : Num.round ((2 * k + 1 : Int) / 2 : Rat) = ((if k ≥ 0 then k + 1 else k : Int) : Rat) := by
  -- `x + 1/2` and `-x + 1/2` are the integers `k + 1` and `-k`, so the two floors are exact
  simp only [Num.round]
  rw [(half_add_half k).1, (half_add_half k).2, Rat.floor_intCast, Rat.floor_intCast, Rat.intCast_neg, Rat.neg_neg]
  by_cases hk : k ≥ 0
  · rw [if_pos hk, if_neg (mt (half_int_neg_iff k).mp (Int.not_lt.mpr hk))]
  · rw [if_neg hk, if_pos ((half_int_neg_iff k).mpr (Int.not_le.mp hk))]

theorem arithmetic_keeps_base (rates) (conv) (a b : Rat) (t u : NumType) (op : BinOp) :
    ∃ v, calcItem rates conv (.number a t) (.number b u) op = some (.number v t) :=
  ⟨_, rfl⟩

example : printBased ((255 : Int) : Rat) .hex = "0xFF" := by decide +kernel
example : radixValue 16 ['f', 'F'] = 255 := by decide

end SCP.C13
