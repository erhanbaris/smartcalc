/-
  SCP.C06 — Money literals, currency conversion and money arithmetic follow the rate table.

  Formula theorems over exact arithmetic (`F := Rat`), for ALL amounts, ALL rate tables and ALL
  pairs of currencies that have a rate; history theorem for ALL sequences of rate updates;
  data obligations (`decide`, kernel-evaluated) over the rate / alias / currency tables
  REGENERATED from config.json on every run.
-/
import SC.Calc
import SC.Gen.Config
import SCP.C05
import SCP.Lemmas.C13
namespace SCP.C06
open SC SCP.C05
open SCP.Lemmas.C13 (gdiv_rat)

theorem convertCurrency_formula (rates : List (String × Rat)) (a ra rb : Rat) (A B : String)
    (hA : rate? rates A = some ra) (hB : rate? rates B = some rb) :
    convertCurrency rates a A B = a * (rb / ra) := by
  simp [convertCurrency, hA, hB, gdiv_rat, Num.mul]
  grind

theorem convertCurrency_self (rates : List (String × Rat)) (a ra : Rat) (A : String)
    (hA : rate? rates A = some ra) (h0 : ra ≠ 0) : convertCurrency rates a A A = a := by
  rw [convertCurrency_formula rates a ra ra A A hA hA, Rat.div_def, Rat.mul_inv_cancel _ h0, Rat.mul_one]

/-- the `convert_money` rule: `<amount A> to <word>` -/
theorem convert_rule (c : Cfg Rat) (lang : String) (now : Now) (vs : Vars Rat) (a ra rb : Rat) (A B word : String)
    (hw : readCurrency c word = some B)
    (hA : rate? c.rates A = some ra) (hB : rate? c.rates B = some rb) :
    applyRule c lang now vs .convertMoney [("currency", tiText word), ("money", ti (mon a A))] =
      some (mon (a * (rb / ra)) B) := by
  simp [rules, hw, hA, hB]
  grind

theorem add_money (rates : List (String × Rat)) (conv) (a b ra rb : Rat) (A B : String)
    (hA : rate? rates A = some ra) (hB : rate? rates B = some rb) :
    calcItem rates conv (.money a A) (.money b B) .add = some (.money (a + b * (ra / rb)) A) := by
  simp [rules, convertCurrency_formula rates b rb ra B A hB hA]

theorem sub_money (rates : List (String × Rat)) (conv) (a b ra rb : Rat) (A B : String)
    (hA : rate? rates A = some ra) (hB : rate? rates B = some rb) :
    calcItem rates conv (.money a A) (.money b B) .sub = some (.money (a - b * (ra / rb)) A) := by
  simp [rules, convertCurrency_formula rates b rb ra B A hB hA]

theorem div_money (rates : List (String × Rat)) (conv) (a b ra rb : Rat) (A B : String)
    (hA : rate? rates A = some ra) (hB : rate? rates B = some rb) :
    calcItem rates conv (.money a A) (.money b B) .div = some (.number (a / (b * (ra / rb))) .decimal) := by
  simp [rules, convertCurrency_formula rates b rb ra B A hB hA]

theorem mul_number (rates : List (String × Rat)) (conv) (a k : Rat) (A : String) (t : NumType) :
    calcItem rates conv (.money a A) (.number k t) .mul = some (.money (a * k) A) := by
  simp [rules]

theorem div_number (rates : List (String × Rat)) (conv) (a k : Rat) (A : String) (t : NumType) :
    calcItem rates conv (.money a A) (.number k t) .div = some (.money (a / k) A) := by
  simp [rules]

theorem rate_setRate (rates : List (String × Rat)) (code k : String) (v : Rat) :
    rate? (setRate rates code v) k = if k = code then some v else rate? rates k := by
  unfold rate?
  fun_induction setRate rates code v <;> grind [assoc?]

/-- a rate update: name as typed by the caller, new rate -/
abbrev Update := String × Rat

def applyUpdates (c : Cfg Rat) : List Update → Cfg Rat
  | [] => c
  | (name, v) :: rest => applyUpdates (updateCurrency c name v).1 rest

theorem updateCurrency_frame (c : Cfg Rat) (name : String) (v : Rat) :
    ∃ rates, (updateCurrency c name v).1 = { c with rates := rates } := by
  unfold updateCurrency
  split
  · exact ⟨_, rfl⟩
  · exact ⟨c.rates, rfl⟩

theorem readCurrency_update (c : Cfg Rat) (name : String) (v : Rat) (w : String) :
    readCurrency (updateCurrency c name v).1 w = readCurrency c w := by
  obtain ⟨rates, h⟩ := updateCurrency_frame c name v
  rw [h]
  rfl

theorem updateCurrency_false_iff (c : Cfg Rat) (name : String) (v : Rat) :
    (updateCurrency c name v).2 = false ↔ readCurrency c name = none := by
  unfold updateCurrency; split <;> simp_all

theorem updateCurrency_false_noop (c : Cfg Rat) (name : String) (v : Rat)
    (h : (updateCurrency c name v).2 = false) : (updateCurrency c name v).1 = c := by
  unfold updateCurrency at *; split <;> simp_all

theorem rate_updateCurrency (c : Cfg Rat) (name : String) (v : Rat) (k : String) :
    rate? (updateCurrency c name v).1.rates k =
      if readCurrency c name = some k then some v else rate? c.rates k := by
  unfold updateCurrency
  split <;> simp [rate_setRate, *, eq_comm]

/-- the last rate written for currency `k` in a history (by any name that denotes it) -/
def lastWritten (c : Cfg Rat) (k : String) : List Update → Option Rat
  | [] => none
  | (name, v) :: rest =>
    match lastWritten c k rest with
    | some w => some w
    | none => if readCurrency c name = some k then some v else none

theorem lastWritten_congr (c c' : Cfg Rat) (k : String) (h : ∀ w, readCurrency c' w = readCurrency c w) (us : List Update) :
    lastWritten c' k us = lastWritten c k us := by
  induction us with
  | nil => rfl
  | cons u r ih => simp only [lastWritten, ih, h]

/-- last write wins: after ANY history of rate updates the rate of every currency is the last value written for
    it, else the configured one: a changed rate takes effect for exactly that currency. -/
theorem rate_frame (c : Cfg Rat) (us : List Update) (k : String) :
    rate? (applyUpdates c us).rates k = (match lastWritten c k us with | some w => some w | none => rate? c.rates k) := by
  induction us generalizing c with
  | nil => rfl
  | cons u rest ih =>
    obtain ⟨name, v⟩ := u
    simp only [applyUpdates, lastWritten]
    rw [ih, lastWritten_congr c _ k (readCurrency_update c name v)]
    cases lastWritten c k rest with
    | some w => rfl  -- written again later
    | none => simp only [rate_updateCurrency]; split <;> rfl  -- this call's value if the name denotes `k`

/-! ### data obligations over the regenerated tables

`+kernel` where strings are compared: evaluating them in the elaborator first more than doubles the cost. -/

/-- every rate belongs to a configured currency -/
theorem rates_have_currency :
    (Gen.rateTable.all (fun r => Gen.currencies.any (fun c => c.2.code == r.1))) = true := by decide +kernel

/-- every currency alias resolves to a configured currency -/
theorem aliases_resolve :
    (Gen.currencyAlias.all (fun a => Gen.currencies.any (fun c => c.1 == a.2))) = true := by decide +kernel

/-- no configured rate is zero (so every configured conversion is invertible); a rate is stored as numerator and
    denominator of the exact decimal of config.json -/
theorem no_zero_rate : (Gen.rateTable.all (fun r => r.2.1 != 0 && r.2.2 != 0)) = true := by decide

example : convertCurrency [("EUR", (2 : Rat)), ("USD", 1)] 10 "USD" "EUR" = 20 := by
  rw [convertCurrency_formula _ 10 1 2 "USD" "EUR" (by decide) (by decide)]; grind

end SCP.C06
