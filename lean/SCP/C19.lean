/-
  SCP.C19 — Every configured language is a relabelling of the same calculator.

  The language tag reaches the layers behind the lexer only through the per-language tables of the configuration: the rule
  list and the keyword → constant table (`constantOf`), plus the print formats.  So two language tags whose rule lists and
  keyword tables coincide evaluate every token list identically (`applyRule_lang` … `evalInfos_lang`: a language IS its tables),
  a duration keyword acts only through the constant it maps to (`parse_kind`), and `evalTokens` (parser + interpreter:
  arithmetic, money, percentages, variables) does not take a language at all, by its type (`wordless_same`).
  What is left is that the tables of every language are complete: data obligations, re-decided by the kernel on the tables
  regenerated from config.json.
-/
import SC.Engine
import SC.Gen.Config
import SC.Gen.Tables
import SCP.Lemmas.Rules
import SCP.Lemmas.Pass
namespace SCP.C19
open SC
variable {F : Type} [Num F]

/-- the two things of a language the rewrite layers read -/
def SameTables (c : Cfg F) (l l' : String) : Prop :=
  (c.lang? l).map (·.rules) = (c.lang? l').map (·.rules) ∧ ∀ w, constantOf c l w = constantOf c l' w

theorem applyRule_lang (c : Cfg F) (l l' : String) (h : ∀ w, constantOf c l w = constantOf c l' w) (now : Now) (vs : Vars F)
    (fn : RuleFn F) (fs : Fields F) : applyRule c l now vs fn fs = applyRule c l' now vs fn fs := by
  -- a rule function reads nothing of the language but its keyword table (the two duration rules look a word up)
  have : constantOf c l = constantOf c l' := funext h
  unfold applyRule
  rw [this]

theorem tryPats_lang (c : Cfg F) (l l' : String) (h : ∀ w, constantOf c l w = constantOf c l' w) (now : Now) (vs : Vars F)
    (rule : Rule F) (pats : List (List (TokInfo F))) (infos : List (TokInfo F)) :
    rulePass.tryPats c l now vs rule pats infos = rulePass.tryPats c l' now vs rule pats infos := by
  simp only [SCP.Lemmas.rule_tryPats_eq, applyRule_lang c l l' h]

theorem rulePass_lang (c : Cfg F) (l l' : String) (h : ∀ w, constantOf c l w = constantOf c l' w) (now : Now) (vs : Vars F)
    (rules : List (Rule F)) (infos : List (TokInfo F)) :
    rulePass c l now vs rules infos = rulePass c l' now vs rules infos := by
  unfold rulePass
  congr 1
  funext acc rule
  rw [tryPats_lang c l l' h]

theorem ruleLoop_lang (c : Cfg F) (l l' : String) (h : ∀ w, constantOf c l w = constantOf c l' w) (now : Now) (vs : Vars F)
    (rules : List (Rule F)) (fuel : Nat) (infos : List (TokInfo F)) :
    ruleLoop c l now vs rules fuel infos = ruleLoop c l' now vs rules fuel infos := by
  induction fuel generalizing infos with
  | zero => rfl
  | succ n ih => simp only [ruleLoop, rulePass_lang c l l' h, ih]

/-- a language is its tables: equal rule lists and keyword tables ⇒ identical evaluation of every line -/
theorem evalInfos_lang (c : Cfg F) (l l' : String) (h : SameTables c l l') (now : Now) (vs : Vars F) (infos : List (TokInfo F)) :
    evalInfos c l now vs infos = evalInfos c l' now vs infos := by
  obtain ⟨hr, hc⟩ := h
  unfold evalInfos rewriteInfos
  simp only [ruleLoop_lang c l l' hc]
  -- the two sides now differ in the rule list only, which is `hr`'s with `[]` for an unknown language
  cases h1 : c.lang? l <;> cases h2 : c.lang? l' <;> simp_all

/-- lines that the rewrite layers leave alone (no word of either language takes part) evaluate
    identically: the parser and the interpreter have no language parameter -/
theorem wordless_same (c : Cfg F) (l l' : String) (now : Now) (vs : Vars F) (infos : List (TokInfo F))
    (h : rewriteInfos c l now vs infos = rewriteInfos c l' now vs infos) :
    evalInfos c l now vs infos = evalInfos c l' now vs infos := by
  unfold evalInfos
  rw [h]

def ti (t : Tok Rat) : TokInfo Rat := { start := 0, stop := 0, tok := some t }
attribute [rules] ti

/-- a duration keyword acts only through the constant it maps to -/
theorem parse_kind (c : Cfg Rat) (l l' : String) (now : Now) (vs : Vars Rat) (n : Rat) (w w' : String)
    (h : constantOf c l w = constantOf c l' w') :
    applyRule c l now vs .durationParse [("duration", ti (.item (.number n .decimal))), ("type", ti (.text w))] =
      applyRule c l' now vs .durationParse [("duration", ti (.item (.number n .decimal))), ("type", ti (.text w'))] := by
  simp [rules, h]

def allLangs : List (Lang Rat) := (Gen.cfg Rat).langs

/-- every language has a word for every constant kind 1..11 -/
theorem constants_complete :
    allLangs.all (fun l => (List.range 11).all fun k => l.constants.any fun kv => kv.2 == k + 1) = true := by decide +kernel

/-- every word of the duration group is a keyword of a duration constant (kinds 1..7) -/
theorem duration_words_known :
    allLangs.all (fun l => ((assoc? l.groups "duration_group").getD []).all fun w =>
      match assoc? l.constants w with | some k => decide (1 ≤ k ∧ k ≤ 7) | none => false) = true := by decide +kernel

def isOpAtom (s : String) : Bool := s = "[OPERATOR:+]" || s = "[OPERATOR:-]" || s = "[OPERATOR:*]" || s = "[OPERATOR:/]"

/-- every language has words for + - * and every alias that looks like an atom is an operator atom -/
theorem operator_words :
    Gen.langAliases.all (fun la =>
      ["[OPERATOR:+]", "[OPERATOR:-]", "[OPERATOR:*]"].all (fun op => la.2.any fun kv => kv.2 == op) &&
      la.2.all (fun kv => isOpAtom kv.2 || !(kv.2.startsWith "["))) = true := by decide +kernel

/-- 12 months with printing names; every configured spelling is a month 1..12; every month has one -/
theorem months_complete :
    allLangs.all (fun l => l.months.length == 12 && l.months.all fun m => m.1 != "" && m.2 != "") = true ∧
    Gen.monthNames.all (fun ln => ln.2.all (fun kv => decide (1 ≤ kv.2 ∧ kv.2 ≤ 12)) &&
      (List.range 12).all fun k => ln.2.any fun kv => kv.2 == k + 1) = true := by
  constructor <;> decide +kernel

/-- the date formats and a generic format of each duration unit exist in every language -/
theorem formats_complete :
    allLangs.all (fun l =>
      ["current_year", "current_year_with_time", "full_date", "full_date_time"].all (fun k => (assoc? l.dateFmts k).isSome) &&
      (List.range 7).all fun kind => l.durFmts.any fun f => f.kind == kind && f.count == "n") = true := by decide +kernel

/-- `RuleFn F` has no `BEq` (an API rule carries numbers of `F`), so rule functions are compared by name (config.json
    names them too, in snake case: `RULE_FUNCTIONS`).  An API rule whose name is one of these strings would pass for the built-in
    one; the configured languages hold no API rule. -/
def fnName : RuleFn Rat → String
  | .percentCalculator => "percentCalculator" | .convertTimezone => "convertTimezone" | .timeWithTimezone => "timeWithTimezone"
  | .toUnixtime => "toUnixtime" | .fromUnixtime => "fromUnixtime" | .convertMoney => "convertMoney" | .numberOn => "numberOn"
  | .numberOf => "numberOf" | .numberOff => "numberOff" | .divisionCleanup => "divisionCleanup" | .durationParse => "durationParse"
  | .asDuration => "asDuration" | .toDuration => "toDuration" | .atDate => "atDate" | .combineDurations => "combineDurations"
  | .findNumbersPercent => "findNumbersPercent" | .findTotalFromPercent => "findTotalFromPercent"
  | .numberTypeConvert => "numberTypeConvert" | .dynamicTypeConvert => "dynamicTypeConvert" | .smallDate => "smallDate"
  | .api n _ => n

/-- the rule functions of every language are rule functions of `en` -/
theorem rules_subset :
    allLangs.all (fun l => l.rules.all fun r =>
      (((Gen.cfg Rat).lang? "en").map (·.rules)).getD [] |>.any fun r' => fnName r'.fn == fnName r.fn) = true := by decide +kernel

/-! non-vacuity: `gün` (tr) and `days` (en) map to the same constant -/
example : constantOf (Gen.cfg Rat) "tr" "gün" = constantOf (Gen.cfg Rat) "en" "days" := by decide +kernel

end SCP.C19
