/-
  SCP.VarTermination — the variable-substitution loop (`update_token_variables`) reaches its
  fixpoint: it terminates for every line and every session whose variable names are non-empty,
  contain no pattern-field token and are not a single variable token (names are taken from the
  tokens in front of `=`; a name that is one existing variable is that variable, so it is never
  registered a second time).

  Measure `M = 2·(number of infos) − (number of variable infos)`: a substitution replaces a
  segment of `s ≥ 1` infos by one variable info; it lowers `M` by `2s − 1 − (variable infos in the
  segment)`, which is at least 1 — for `s ≥ 2` trivially, for `s = 1` because a name token that is neither a
  variable nor a pattern field never equals a variable info (`infoEqTok_plain`).  Hence `varLoop_stable`: beyond `M` rounds more
  fuel changes nothing; the model's fuel `2·length + 1` always exceeds `M` (`model_fuel_suffices`).
-/
import SC.Engine
import SCP.C03
import SCP.Lemmas.Fuel
namespace SCP.VarTermination
open SC
variable {F : Type} [Num F]
set_option linter.unusedSectionVars false

def isVarInfo (ti : TokInfo F) : Bool := match ti.tok with | some (.var _) => true | _ => false

def nvar (l : List (TokInfo F)) : Nat := l.countP isVarInfo

def M (l : List (TokInfo F)) : Nat := 2 * l.length - nvar l

theorem nvar_le (l : List (TokInfo F)) : nvar l ≤ l.length := List.countP_le_length

/-- the hypothesis of the module, on the names the session map holds: none is empty, holds a pattern-field token or is a
    single variable token (names come from the tokens in front of `=`; SCP.VarInvariant shows it an invariant of evaluation) -/
def NamesOK (vs : Vars F) : Prop :=
  ∀ kv ∈ vs, kv.2.toks ≠ [] ∧ (∀ r ∈ kv.2.toks, ∀ f, r ≠ .field f) ∧ (∀ x, kv.2.toks ≠ [.var x])

theorem infoEqTok_plain (l : TokInfo F) (r : Tok F) (hv : ∀ x, r ≠ .var x) (hf : ∀ f, r ≠ .field f) (h : infoEqTok l r = true) :
    isVarInfo l = false := by
  unfold infoEqTok at h
  unfold isVarInfo
  cases hl : l.tok with
  | none => rfl
  | some a =>
    cases a <;> try rfl
    -- l is a variable info: only a variable or a field name token can equal it
    cases r <;> simp_all

theorem matchesAt_length (toks : List (TokInfo F)) (name : List (Tok F)) (h : matchesAt toks name = true) :
    name.length ≤ toks.length := by
  fun_induction matchesAt toks name <;> simp_all <;> omega

/-- what a substitution step does: an occurrence of the name of some variable becomes one variable info -/
theorem varStep_some {vs : Vars F} {startIdx : Nat} {infos infos' : List (TokInfo F)} (h : varStep vs startIdx infos = some infos') :
    ∃ kv ∈ vs, ∃ i tn, matchesAt (infos.drop (startIdx + i)) kv.2.toks = true ∧ isVarInfo tn = true ∧
      infos' = infos.take (startIdx + i) ++ tn :: infos.drop (startIdx + i + kv.2.toks.length) := by
  simp only [varStep] at h
  split at h
  · cases h
  · rename_i idx name size hp
    obtain h0 | hmem := (SCP.C03.pickBest_spec _ none _ hp).1
    · cases h0
    · obtain ⟨kv, hkv, hloc⟩ := List.mem_filterMap.1 hmem
      obtain ⟨i, hfind, heq⟩ := Option.map_eq_some_iff.1 hloc
      cases heq
      obtain ⟨⟨-, hm, -⟩, -⟩ := (SCP.C03.findLocation_some_iff _ _ _).1 hfind   -- the name matches at position `i`
      rw [List.drop_drop] at hm
      exact ⟨kv, hkv, _, _, hm, rfl, by simpa using h.symm⟩

/-- the matched segment of an admissible name holds few enough variable infos: a name of one token is neither a variable
    nor a field, so it never equals a variable info (`infoEqTok_plain`); a longer one needs no argument -/
theorem matched_nvar (l : List (TokInfo F)) (name : List (Tok F)) (hne : name ≠ [])
    (hnf : ∀ r ∈ name, ∀ f, r ≠ .field f) (hnv : ∀ x, name ≠ [.var x]) (hm : matchesAt l name = true) :
    nvar (l.take name.length) + 2 ≤ 2 * name.length := by
  have hle : nvar (l.take name.length) ≤ name.length := Nat.le_trans (nvar_le _) (List.length_take_le _ _)
  match name, l with
  | [], _ => exact absurd rfl hne
  | [r], t :: _ =>
    simp only [matchesAt, Bool.and_true] at hm
    simp [nvar, infoEqTok_plain t r (fun x hx => hnv x (by rw [hx])) (hnf r List.mem_cons_self) hm]
  | _ :: _ :: _, _ => simp only [List.length_cons] at hle ⊢; omega

/-- replacing a segment by one variable info lowers the measure, unless the segment is a single variable info -/
theorem M_replace (a seg c : List (TokInfo F)) (tn : TokInfo F) (htn : isVarInfo tn = true) (hseg : nvar seg + 2 ≤ 2 * seg.length) :
    M (a ++ tn :: c) < M (a ++ (seg ++ c)) := by
  have ha := nvar_le a
  have hc := nvar_le c
  simp only [M, nvar, List.countP_append, List.countP_cons, List.length_append, List.length_cons, htn, if_true] at *
  omega

theorem varStep_lowers (vs : Vars F) (hok : NamesOK vs) (startIdx : Nat) (infos infos' : List (TokInfo F))
    (h : varStep vs startIdx infos = some infos') : M infos' < M infos := by
  obtain ⟨kv, hkv, i, tn, hm, htn, rfl⟩ := varStep_some h
  obtain ⟨hne, hnf, hnv⟩ := hok kv hkv
  have hseg := matched_nvar _ _ hne hnf hnv hm
  have hlen := matchesAt_length _ _ hm
  -- `infos` = prefix ++ matched segment ++ suffix
  conv => rhs; rw [← List.take_append_drop (startIdx + i) infos, ← List.take_append_drop kv.2.toks.length (infos.drop (startIdx + i)),
    List.drop_drop]
  exact M_replace _ _ _ tn htn (by rwa [List.length_take, Nat.min_eq_left hlen])

/-- termination of the variable loop: beyond `M infos` rounds more fuel changes nothing -/
theorem varLoop_stable (vs : Vars F) (hok : NamesOK vs) (startIdx : Nat) :
    ∀ (fuel : Nat) (infos : List (TokInfo F)) (k : Nat), M infos < fuel →
      varLoop vs startIdx (fuel + k) infos = varLoop vs startIdx fuel infos := by
  refine SCP.Lemmas.fuel_stable _ M fun infos => ?_
  cases hs : varStep vs startIdx infos with
  | none => exact .inr fun m m' => by simp [varLoop, hs]
  | some infos' => exact .inl ⟨_, varStep_lowers vs hok startIdx infos infos' hs, fun m => by simp [varLoop, hs]⟩

theorem model_fuel_suffices (infos : List (TokInfo F)) : M infos < 2 * infos.length + 1 := by
  unfold M; omega

theorem updateTokenVariables_stable (vs : Vars F) (hok : NamesOK vs) (infos : List (TokInfo F)) (k : Nat) :
    varLoop vs (varStartIndex infos) (2 * infos.length + 1 + k) infos = updateTokenVariables vs infos := by
  exact varLoop_stable vs hok _ _ infos k (model_fuel_suffices infos)

end SCP.VarTermination
