/-
  SCP.C05 — Percentage phrases compute the textbook formulas for numbers and money.

  All formula theorems are over exact arithmetic (`F := Rat`): floating-point rounding is
  modelled (the compiled model is bit-exact with the implementation) but not verified.
  `x`, `a`, `b`, `p` range over ALL rationals (negative, zero, fractional).
-/
import SC.Rules
import SC.Engine
import SC.Gen.Config
import SCP.Lemmas.Match
import SCP.Lemmas.Rules
import SCP.Lemmas.C13
namespace SCP.C05
open SC SCP.Match

/-- spans are irrelevant for the rule functions -/
def ti (t : Tok Rat) : TokInfo Rat := { start := 0, stop := 0, tok := some t }

def num (x : Rat) : Tok Rat := .item (.number x .decimal)
def pct (p : Rat) : Tok Rat := .item (.percent p)
def mon (x : Rat) (cur : String) : Tok Rat := .item (.money x cur)

attribute [rules] ti num pct mon

/-- the model adds the share `x * p / 100` to `x`, the statements below multiply by `1 + p / 100` -/
theorem mul_one_add_div (x p c : Rat) : x * (1 + p / c) = x + x * p / c := by grind

theorem mul_one_sub_div (x p c : Rat) : x * (1 - p / c) = x - x * p / c := by grind

/-! ### `X + p%`, `X - p%` (the interpreter: a percent operand is that share of the other one) -/

theorem plus_percent (x p : Rat) (t : NumType) (rates) (conv) :
    calcItem rates conv (.number x t) (.percent p) .add = some (.number (x * (1 + p / 100)) t) := by
  simp [rules, mul_one_add_div]

theorem minus_percent (x p : Rat) (t : NumType) (rates) (conv) :
    calcItem rates conv (.number x t) (.percent p) .sub = some (.number (x * (1 - p / 100)) t) := by
  simp [rules, mul_one_sub_div]

theorem money_plus_percent (x p : Rat) (cur : String) (rates) (conv) :
    calcItem rates conv (.money x cur) (.percent p) .add = some (.money (x * (1 + p / 100)) cur) := by
  simp [rules, mul_one_add_div]

theorem money_minus_percent (x p : Rat) (cur : String) (rates) (conv) :
    calcItem rates conv (.money x cur) (.percent p) .sub = some (.money (x * (1 - p / 100)) cur) := by
  simp [rules, mul_one_sub_div]

/-! ### `p% of X`, `p% on X`, `p% off X` (rule functions number_of / number_on / number_off) -/

/-- the fields a match of `{PERCENT:p} of {NUMBER_OR_MONEY:number}` (either order) binds -/
def fieldsNP (number p : Tok Rat) : Fields Rat := [("number", ti number), ("p", ti p)]

attribute [rules] fieldsNP

theorem of_number (c : Cfg Rat) (lang : String) (now : Now) (vs : Vars Rat) (x p : Rat) :
    applyRule c lang now vs .numberOf (fieldsNP (num x) (pct p)) = some (num (x * p / 100)) := by
  simp [rules]

theorem on_number (c : Cfg Rat) (lang : String) (now : Now) (vs : Vars Rat) (x p : Rat) :
    applyRule c lang now vs .numberOn (fieldsNP (num x) (pct p)) = some (num (x * (1 + p / 100))) := by
  simp [rules, mul_one_add_div]

theorem off_number (c : Cfg Rat) (lang : String) (now : Now) (vs : Vars Rat) (x p : Rat) :
    applyRule c lang now vs .numberOff (fieldsNP (num x) (pct p)) = some (num (x * (1 - p / 100))) := by
  simp [rules, mul_one_sub_div]

theorem of_money (c : Cfg Rat) (lang : String) (now : Now) (vs : Vars Rat) (x p : Rat) (cur : String) :
    applyRule c lang now vs .numberOf (fieldsNP (mon x cur) (pct p)) = some (mon (x * p / 100) cur) := by
  simp [rules]

theorem on_money (c : Cfg Rat) (lang : String) (now : Now) (vs : Vars Rat) (x p : Rat) (cur : String) :
    applyRule c lang now vs .numberOn (fieldsNP (mon x cur) (pct p)) = some (mon (x * (1 + p / 100)) cur) := by
  simp [rules, mul_one_add_div]

theorem off_money (c : Cfg Rat) (lang : String) (now : Now) (vs : Vars Rat) (x p : Rat) (cur : String) :
    applyRule c lang now vs .numberOff (fieldsNP (mon x cur) (pct p)) = some (mon (x * (1 - p / 100)) cur) := by
  simp [rules, mul_one_sub_div]

/-! ### `A is what % of B`, `A is p% of what` -/

theorem what_percent (c : Cfg Rat) (lang : String) (now : Now) (vs : Vars Rat) (a b : Rat) :
    applyRule c lang now vs .findNumbersPercent [("part", ti (num a)), ("total", ti (num b))] =
      some (pct (100 * a / b)) := by
  simp [rules, Rat.mul_comm]

/-- a zero total yields 0 % (Lean's `x / 0 = 0` coincides with the guarded division here) -/
theorem what_percent_zero (c : Cfg Rat) (lang : String) (now : Now) (vs : Vars Rat) (a : Rat) :
    applyRule c lang now vs .findNumbersPercent [("part", ti (num a)), ("total", ti (num 0))] =
      some (pct 0) := by
  rw [what_percent]; simp [pct, Rat.div_def]

theorem what_percent_money (c : Cfg Rat) (lang : String) (now : Now) (vs : Vars Rat) (a b : Rat) (ca cb : String) :
    applyRule c lang now vs .findNumbersPercent [("part", ti (mon a ca)), ("total", ti (mon b cb))] =
      some (pct (100 * a / b)) := by
  simp [rules, Rat.mul_comm]

theorem total_from_percent (c : Cfg Rat) (lang : String) (now : Now) (vs : Vars Rat) (a p : Rat) :
    applyRule c lang now vs .findTotalFromPercent [("number_part", ti (num a)), ("percent_part", ti (pct p))] =
      some (num (100 * a / p)) := by
  simp [rules, Rat.mul_comm]

theorem total_from_percent_money (c : Cfg Rat) (lang : String) (now : Now) (vs : Vars Rat) (a p : Rat) (cur : String) :
    applyRule c lang now vs .findTotalFromPercent [("number_part", ti (mon a cur)), ("percent_part", ti (pct p))] =
      some (mon (100 * a / p) cur) := by
  simp [rules, Rat.mul_comm]

/-! ### token level: the GENERATED rule patterns (regenerated from config.json on every run)
    match the phrases' token sequences in both operand orders and bind the fields the rule
    functions read.  `v` is any number or money token. -/

def tiText (s : String) : TokInfo Rat := { start := 0, stop := 0, tok := some (.text s) }
def tiOp (o : Op) : TokInfo Rat := { start := 0, stop := 0, tok := some (.op o) }

attribute [rules] tiText tiOp

inductive NumOrMoney : Tok Rat → Prop
  | number (x : Rat) : NumOrMoney (num x)
  | money (x : Rat) (cur : String) : NumOrMoney (mon x cur)

theorem NumOrMoney.hit {v : Tok Rat} (hv : NumOrMoney v) {vs : Vars Rat} {k : String} {s e : Nat} {x : String} :
    Hit vs ⟨s, e, some (.field (.typeGroup ["NUMBER", "MONEY"] k)), x, true⟩ (ti v) := by
  cases hv <;>
    exact hit_field (h := by simp [tokFieldCompare, num, mon, Tok.typeName, Item.typeName])

theorem phrase_of_1 (v : Tok Rat) (hv : NumOrMoney v) (p : Rat) :
    ∃ pat, (Gen.rule_en_number_of Rat).patterns[0]? = some pat ∧
      (findMatch ([] : Vars Rat) pat [ti (pct p), tiText "of", ti v]).found = true ∧
      (findMatch ([] : Vars Rat) pat [ti (pct p), tiText "of", ti v]).fields = fieldsNP v (pct p) :=
  ⟨_, rfl, findMatch_spelled ⟨hit_field, hit_text, hv.hit, trivial⟩ (by simp [rules])⟩

theorem phrase_of_2 (v : Tok Rat) (hv : NumOrMoney v) (p : Rat) :
    ∃ pat, (Gen.rule_en_number_of Rat).patterns[1]? = some pat ∧
      (findMatch ([] : Vars Rat) pat [ti v, tiText "of", ti (pct p)]).found = true ∧
      (findMatch ([] : Vars Rat) pat [ti v, tiText "of", ti (pct p)]).fields = fieldsNP v (pct p) :=
  ⟨_, rfl, findMatch_spelled ⟨hv.hit, hit_text, hit_field, trivial⟩ (by simp [rules])⟩

theorem phrase_on_1 (v : Tok Rat) (hv : NumOrMoney v) (p : Rat) :
    ∃ pat, (Gen.rule_en_number_on Rat).patterns[0]? = some pat ∧
      (findMatch ([] : Vars Rat) pat [ti (pct p), tiText "on", ti v]).found = true ∧
      (findMatch ([] : Vars Rat) pat [ti (pct p), tiText "on", ti v]).fields = fieldsNP v (pct p) :=
  ⟨_, rfl, findMatch_spelled ⟨hit_field, hit_text, hv.hit, trivial⟩ (by simp [rules])⟩

theorem phrase_on_2 (v : Tok Rat) (hv : NumOrMoney v) (p : Rat) :
    ∃ pat, (Gen.rule_en_number_on Rat).patterns[1]? = some pat ∧
      (findMatch ([] : Vars Rat) pat [ti v, tiText "on", ti (pct p)]).found = true ∧
      (findMatch ([] : Vars Rat) pat [ti v, tiText "on", ti (pct p)]).fields = fieldsNP v (pct p) :=
  ⟨_, rfl, findMatch_spelled ⟨hv.hit, hit_text, hit_field, trivial⟩ (by simp [rules])⟩

theorem phrase_off_1 (v : Tok Rat) (hv : NumOrMoney v) (p : Rat) :
    ∃ pat, (Gen.rule_en_number_off Rat).patterns[0]? = some pat ∧
      (findMatch ([] : Vars Rat) pat [ti (pct p), tiText "off", ti v]).found = true ∧
      (findMatch ([] : Vars Rat) pat [ti (pct p), tiText "off", ti v]).fields = fieldsNP v (pct p) :=
  ⟨_, rfl, findMatch_spelled ⟨hit_field, hit_text, hv.hit, trivial⟩ (by simp [rules])⟩

theorem phrase_off_2 (v : Tok Rat) (hv : NumOrMoney v) (p : Rat) :
    ∃ pat, (Gen.rule_en_number_off Rat).patterns[1]? = some pat ∧
      (findMatch ([] : Vars Rat) pat [ti v, tiText "off", ti (pct p)]).found = true ∧
      (findMatch ([] : Vars Rat) pat [ti v, tiText "off", ti (pct p)]).fields = fieldsNP v (pct p) :=
  ⟨_, rfl, findMatch_spelled ⟨hv.hit, hit_text, hit_field, trivial⟩ (by simp [rules])⟩

/-- `A is what % of B` -/
theorem phrase_what_percent (a b : Tok Rat) (ha : NumOrMoney a) (hb : NumOrMoney b) :
    ∃ pat, (Gen.rule_en_find_numbers_percent Rat).patterns[0]? = some pat ∧
      (findMatch ([] : Vars Rat) pat [ti a, tiText "is", tiText "what", tiOp .pct, tiText "of", ti b]).found = true ∧
      (findMatch ([] : Vars Rat) pat [ti a, tiText "is", tiText "what", tiOp .pct, tiText "of", ti b]).fields =
        [("part", ti a), ("total", ti b)] :=
  ⟨_, rfl, findMatch_spelled ⟨ha.hit, hit_text, hit_text, hit_op, hit_text, hb.hit, trivial⟩ (by simp [rules])⟩

/-- `A is p% of what` -/
theorem phrase_total_from_percent (a : Tok Rat) (ha : NumOrMoney a) (p : Rat) :
    ∃ pat, (Gen.rule_en_find_total_from_percent Rat).patterns[0]? = some pat ∧
      (findMatch ([] : Vars Rat) pat [ti a, tiText "is", ti (pct p), tiText "of", tiText "what"]).found = true ∧
      (findMatch ([] : Vars Rat) pat [ti a, tiText "is", ti (pct p), tiText "of", tiText "what"]).fields =
        [("number_part", ti a), ("percent_part", ti (pct p))] :=
  ⟨_, rfl, findMatch_spelled ⟨ha.hit, hit_text, hit_field, hit_text, hit_text, trivial⟩ (by simp [rules])⟩

example : calcItem ([] : List (String × Rat)) (fun _ _ => none) (.number 200 .decimal) (.percent 10) .add
    = some (.number 220 .decimal) := by
  rw [plus_percent]; congr 2; grind

end SCP.C05
