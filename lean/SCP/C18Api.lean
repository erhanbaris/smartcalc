/-
  SCP.C18Api — C18, the registration calls from the pattern texts (SC.Api).

  `add_rule` tokenises the patterns in the language the rule is registered for (a word-group field stands for the words of THAT
  language's group, an operator word of that language is the operator), `add_dynamic_type_item` always in "en"; what is then
  registered is `SC.addRule` / `SC.addDynamicTypeItem` on the tokens (`addRuleText_known_language`,
  `addDynamicTypeItemText_known_family`), so the return values, the no-ops and the untouched other languages are those of SCP.C18.
  `none` = a pattern the lexer model does not support.
-/
import SC.Api
import SCP.C18
namespace SCP.C18Api
open SC
variable {F : Type} [Num F]

theorem addRuleText_unknown_language (env : LexEnv) (c : Cfg F) (now : Now) (lang : String) (fn : RuleFn F)
    (pats : List String) (h : c.lang? lang = none) : addRuleText env c now lang fn pats = some (c, false) := by
  simp [addRuleText, h]

theorem addRuleText_known_language (env : LexEnv) (c : Cfg F) (now : Now) (lang : String) (fn : RuleFn F)
    (pats : List String) (l : Lang F) (h : c.lang? lang = some l) :
    addRuleText env c now lang fn pats =
      (pats.mapM fun p => lexText env c lang now p.toList).map fun ps =>
        (c.setLang { l with rules := l.rules ++ [⟨fn, ps⟩] }, true) := by
  simp [addRuleText, patternTokens, addRule, h]

/-- a registration that answers at all answers what `add_rule` answers on tokenised patterns (for an unknown language `add_rule`
    answers `(c, false)` whatever the patterns) -/
theorem addRuleText_some {env : LexEnv} {c : Cfg F} {now : Now} {lang : String} {fn : RuleFn F} {pats : List String} {r : Cfg F × Bool}
    (h : addRuleText env c now lang fn pats = some r) : ∃ ps, r = addRule c lang ⟨fn, ps⟩ := by
  unfold addRuleText at h
  split at h
  next hl => exact ⟨[], by cases h; simp [addRule, hl]⟩  -- unknown language
  next => exact (Option.map_eq_some_iff.mp h).imp fun ps hps => hps.2.symm

theorem addRuleText_false_noop (env : LexEnv) (c c' : Cfg F) (now : Now) (lang : String) (fn : RuleFn F)
    (pats : List String) (h : addRuleText env c now lang fn pats = some (c', false)) : c' = c := by
  obtain ⟨ps, h⟩ := addRuleText_some h
  exact (congrArg Prod.fst h).trans (SCP.C18.addRule_false_noop c lang _ (congrArg Prod.snd h).symm)

/-- a registration answers false only for an unknown language (or not at all: unsupported pattern); the converse is
    `addRuleText_unknown_language` -/
theorem addRuleText_false_iff (env : LexEnv) (c c' : Cfg F) (now : Now) (lang : String) (fn : RuleFn F)
    (pats : List String) (h : addRuleText env c now lang fn pats = some (c', false)) : c.lang? lang = none := by
  obtain ⟨ps, h⟩ := addRuleText_some h
  exact (SCP.C18.addRule_false_iff c lang _).mp (congrArg Prod.snd h).symm

theorem addRuleText_other_languages (env : LexEnv) (c c' : Cfg F) (now : Now) (lang : String) (fn : RuleFn F)
    (pats : List String) (b : Bool) (h : addRuleText env c now lang fn pats = some (c', b)) (L : String) (hL : L ≠ lang) :
    c'.lang? L = c.lang? L := by
  obtain ⟨ps, h⟩ := addRuleText_some h
  rw [show c' = _ from congrArg Prod.fst h]
  exact SCP.C18.addRule_other c lang _ L hL

theorem addDynamicTypeItemText_unknown_family (env : LexEnv) (c : Cfg F) (now : Now) (it : UnitItem F)
    (parse : List String) (h : assoc? c.units it.group = none) :
    addDynamicTypeItemText env c now it parse = some (c, false) := by
  simp [addDynamicTypeItemText, h]

theorem addDynamicTypeItemText_known_family (env : LexEnv) (c : Cfg F) (now : Now) (it : UnitItem F)
    (parse : List String) (items : List (UnitItem F)) (h : assoc? c.units it.group = some items) :
    addDynamicTypeItemText env c now it parse =
      (parse.mapM fun p => lexText env c "en" now p.toList).map fun ps =>
        addDynamicTypeItem c { it with parse := ps } := by
  simp [addDynamicTypeItemText, patternTokens, h]

theorem addDynamicTypeItemText_false_noop (env : LexEnv) (c c' : Cfg F) (now : Now) (it : UnitItem F)
    (parse : List String) (h : addDynamicTypeItemText env c now it parse = some (c', false)) : c' = c := by
  unfold addDynamicTypeItemText at h
  split at h
  next => cases h; rfl  -- unknown family
  next =>
    obtain ⟨ps, -, hps⟩ := Option.map_eq_some_iff.mp h
    exact (congrArg Prod.fst hps).symm.trans (SCP.C18.addDynamicTypeItem_false_noop c _ (congrArg Prod.snd hps))

end SCP.C18Api
