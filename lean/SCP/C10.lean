/-
  SCP.C10 — Durations: unit lengths, additivity, greedy printing and 'as' flooring.
  All statements are over integers (exact), for ALL counts / durations (no 10^6 bound).
-/
import SC.Rules
import SC.Format
import SC.Engine
import SC.Gen.Config
import SC.Gen.Tables
import SCP.C05
import SCP.Lemmas.Rules
namespace SCP.C10
open SC SCP.Match

/-! ### `N unit` (duration_parse) -/

/-- seconds in one unit of each kind (constant_pair numbering: 1 day 2 week 3 month 4 year
    5 second 6 minute 7 hour) -/
def unitLen : Nat → Int
  | 1 => 86400 | 2 => 604800 | 3 => 2592000 | 4 => 31536000 | 5 => 1 | 6 => 60 | 7 => 3600 | _ => 0

/-- second, minute, hour, week, year: `N unit` is `N` times the unit's length -/
theorem parse_len (kind : Nat) (n : Int) (hk : kind = 2 ∨ kind = 4 ∨ kind = 5 ∨ kind = 6 ∨ kind = 7)
    (hr : durOk (n * unitLen kind) = true) :
    durationOfUnit kind n = some (n * unitLen kind) := by
  -- for each kind `durationOfUnit kind n` is by definition `if durOk x then some x else none`, `x` the product the code forms
  -- (found by unification below); it remains that `x` is `n` times the length
  have hs : ∀ x : Int, x = n * unitLen kind → (if durOk x then some x else none) = some (n * unitLen kind) :=
    fun x hx => by rw [hx, if_pos hr]
  rcases hk with rfl | rfl | rfl | rfl | rfl
  · exact hs _ rfl
  · exact hs _ (show 365 * n * 86400 = n * 31536000 by omega)
  · exact hs _ (Int.mul_one n).symm
  · exact hs _ rfl
  · exact hs _ rfl

set_option linter.unusedVariables false in
/-- days: the code's split into 365-day years, 30-day months and a rest is the identity (of every
    integer: truncating division and remainder decompose negative numbers too, `hn` is not needed) -/
theorem parse_days (n : Int) (hn : 0 ≤ n) (hr : durOk (n * 86400) = true) :
    durationOfUnit 1 n = some (n * 86400) := by
  have h : 365 * (Int.tdiv n 365) + 30 * (Int.tdiv (Int.tmod n 365) 30) + Int.tmod (Int.tmod n 365) 30 = n := by
    rw [Int.add_assoc, Int.mul_tdiv_add_tmod, Int.mul_tdiv_add_tmod]
  simp [durationOfUnit, h, hr]

/-- months: twelve months make one (365-day) year, a single month has 30 days -/
theorem parse_months (n : Int) (hn : 0 ≤ n) (hr : durOk ((365 * (n / 12) + 30 * (n % 12)) * 86400) = true) :
    durationOfUnit 3 n = some ((365 * (n / 12) + 30 * (n % 12)) * 86400) := by
  simp [durationOfUnit, Int.tdiv_eq_ediv_of_nonneg hn, Int.tmod_eq_emod_of_nonneg hn, hr]

theorem twelve_months_one_year : durationOfUnit 3 12 = durationOfUnit 4 1 := by decide

def dur (s : Int) : Tok Rat := .item (.duration s)
attribute [rules] dur

theorem add_durations (rates) (conv) (a b : Int) (h : durOk (a + b) = true) :
    calcItem (F := Rat) rates conv (.duration a) (.duration b) .add = some (.duration (a + b)) := by
  simp [rules, h]

theorem sub_durations (rates) (conv) (a b : Int) (h : durOk (a - b) = true) :
    calcItem (F := Rat) rates conv (.duration a) (.duration b) .sub = some (.duration (a - b)) := by
  simp [rules, h]

/-- two durations written next to each other are rewritten to their sum -/
theorem combine_2 (c : Cfg Rat) (lang) (now) (vs : Vars Rat) (a b : Int)
    (h1 : durOk a = true) (h2 : durOk (a + b) = true) :
    applyRule c lang now vs .combineDurations [("1", SCP.C05.ti (dur a)), ("2", SCP.C05.ti (dur b))] =
      some (dur (a + b)) := by
  simp [rules, List.foldl, h1, h2]

theorem combine_3 (c : Cfg Rat) (lang) (now) (vs : Vars Rat) (a b d : Int)
    (h1 : durOk a = true) (h2 : durOk (a + b) = true) (h3 : durOk (a + b + d) = true) :
    applyRule c lang now vs .combineDurations
      [("1", SCP.C05.ti (dur a)), ("2", SCP.C05.ti (dur b)), ("3", SCP.C05.ti (dur d))] = some (dur (a + b + d)) := by
  simp [rules, List.foldl, h1, h2, h3]

/-- the generated `combine_durations` patterns match runs of durations (English: longest pattern first); stated for the
    shortest and the longest run, 2 and 6 -/
theorem phrase_combine_2 (a b : Int) :
    ∃ pat, (Gen.rule_en_combine_durations Rat).patterns[4]? = some pat ∧
      (findMatch ([] : Vars Rat) pat [SCP.C05.ti (dur a), SCP.C05.ti (dur b)]).found = true ∧
      (findMatch ([] : Vars Rat) pat [SCP.C05.ti (dur a), SCP.C05.ti (dur b)]).fields =
        [("1", SCP.C05.ti (dur a)), ("2", SCP.C05.ti (dur b))] :=
  ⟨_, rfl, findMatch_spelled ⟨hit_field, hit_field, trivial⟩ (by simp [rules])⟩

theorem phrase_combine_6 (a b d e f g : Int) :
    ∃ pat, (Gen.rule_en_combine_durations Rat).patterns[0]? = some pat ∧
      (findMatch ([] : Vars Rat) pat [SCP.C05.ti (dur a), SCP.C05.ti (dur b), SCP.C05.ti (dur d), SCP.C05.ti (dur e),
        SCP.C05.ti (dur f), SCP.C05.ti (dur g)]).found = true :=
  ⟨_, rfl, findMatch_found ⟨hit_field, hit_field, hit_field, hit_field, hit_field, hit_field, trivial⟩⟩

/-- seconds of the printing units (kinds 0 second … 6 year) -/
def printLen : Nat → Int
  | 0 => 1 | 1 => 60 | 2 => 3600 | 3 => 86400 | 4 => 604800 | 5 => 2592000 | 6 => 31536000 | _ => 0

def partsValue (ps : List (Nat × Int)) : Int := (ps.map (fun p => p.2 * printLen p.1)).sum

theorem partsValue_cons (k : Nat) (n : Int) (ps) : partsValue ((k, n) :: ps) = n * printLen k + partsValue ps := by
  simp [partsValue]

/-- What "greedy" means: the parts are worth `d`, and every part is taken at least once and as often
    as it fits, i.e. the parts after it are worth less than one unit of it. -/
theorem partsFrom_greedy (us : List (Nat × Int)) (d : Int) (hd : 0 ≤ d)
    (hu : ∀ u ∈ us, 0 < u.2 ∧ printLen u.1 = u.2) :
    partsValue (partsFrom us d) = d ∧ ∀ k n rest, (k, n) :: rest <:+ partsFrom us d →
      1 ≤ n ∧ 0 ≤ partsValue rest ∧ partsValue rest < printLen k := by
  fun_induction partsFrom us d with
  | case1 d h =>   -- no unit left, seconds left: they are the last part
    refine ⟨by simp [partsValue, printLen], fun k n rest hs => ?_⟩
    obtain ⟨⟨rfl, rfl⟩, rfl⟩ : (k = 0 ∧ n = d) ∧ rest = [] := by simpa [List.suffix_cons_iff] using hs
    exact ⟨h, Int.le_refl _, Int.one_pos⟩
  | case2 d h => exact ⟨by simp [partsValue]; omega, fun k n rest hs => by simp at hs⟩   -- nothing left
  | case3 k len us d h ih =>   -- the unit fits: `d / len` of it, and `d % len` for the smaller units
    have ⟨hl, hk⟩ : 0 < len ∧ printLen k = len := hu _ List.mem_cons_self
    have h0 := Int.emod_nonneg d (Int.ne_of_gt hl)
    obtain ⟨hs, hg⟩ := ih h0 fun u h => hu u (List.mem_cons_of_mem _ h)
    refine ⟨?_, fun k' n rest hr => ?_⟩
    · rw [partsValue_cons, hs, hk, Int.mul_comm]; exact Int.mul_ediv_add_emod d len
    · rcases List.suffix_cons_iff.1 hr with hr | hr
      · obtain ⟨⟨rfl, rfl⟩, rfl⟩ := List.cons.inj hr
        rw [hs, hk]
        exact ⟨(Int.le_ediv_iff_mul_le hl).2 (by omega), h0, Int.emod_lt_of_pos d hl⟩
      · exact hg _ _ _ hr
  | case4 k len us d h ih => exact ih hd fun u h => hu u (List.mem_cons_of_mem _ h)   -- it does not fit: no part

theorem partsFrom_sublist (us : List (Nat × Int)) (d : Int) :
    ((partsFrom us d).map (·.1)).Sublist (us.map (·.1) ++ [0]) := by
  fun_induction partsFrom us d with
  | case1 | case2 => simp
  | case3 _ _ _ _ _ ih => exact ih.cons_cons _
  | case4 _ _ _ _ _ ih => exact ih.cons _

theorem durationParts_greedy (secs : Int) :
    partsValue (durationParts secs) = (secs.natAbs : Int) ∧ ∀ k n rest, (k, n) :: rest <:+ durationParts secs →
      1 ≤ n ∧ 0 ≤ partsValue rest ∧ partsValue rest < printLen k :=
  partsFrom_greedy _ _ (by omega) (by decide)   -- the six printing units have positive lengths, those of `printLen`

theorem greedy_sum (secs : Int) : partsValue (durationParts secs) = (secs.natAbs : Int) :=
  (durationParts_greedy secs).1

theorem greedy_counts_pos (secs : Int) : ∀ p ∈ durationParts secs, 1 ≤ p.2 := fun p hp => by
  obtain ⟨s, t, h⟩ := List.append_of_mem hp
  exact ((durationParts_greedy secs).2 p.1 p.2 t (h ▸ List.suffix_append s _)).1

theorem greedy_descending (secs : Int) : (durationParts secs).Pairwise (fun a b => a.1 > b.1) :=
  List.pairwise_map.mp (List.Pairwise.sublist (partsFrom_sublist _ _) (by decide))   -- `[6, 5, 4, 3, 2, 1, 0]` descends

theorem greedy_zero : durationParts 0 = [] := by decide

/-- the leading part is the greedy one: the largest unit that fits, taken as often as it fits
    (`durationParts_greedy` says the same of every later part and what follows it) -/
theorem greedy_leading (secs : Int) (k : Nat) (n : Int) (rest : List (Nat × Int))
    (h : durationParts secs = (k, n) :: rest) :
    n * printLen k ≤ (secs.natAbs : Int) ∧ (secs.natAbs : Int) < (n + 1) * printLen k := by
  obtain ⟨hs, hg⟩ := durationParts_greedy secs
  have := hg k n rest (h ▸ List.suffix_refl _)
  rw [h, partsValue_cons] at hs
  rw [Int.add_mul]
  omega

theorem unitLen_pos {kind : Nat} (hk : kind = 1 ∨ kind = 2 ∨ kind = 5 ∨ kind = 6 ∨ kind = 7) : 0 < unitLen kind := by
  rcases hk with rfl | rfl | rfl | rfl | rfl <;> decide

/-- `D as unit` is the largest whole number of units in |D| (`hk`: the rule has no month or year case for a duration) -/
theorem as_floor (c : Cfg Rat) (now) (vs : Vars Rat) (d : Int) (kind : Nat) (word : String)
    (hk : kind = 1 ∨ kind = 2 ∨ kind = 5 ∨ kind = 6 ∨ kind = 7)
    (hw : constantOf c "en" word = some kind) :
    ∃ k : Int, applyRule c "en" now vs .asDuration
        [("source", SCP.C05.ti (dur d)), ("type", SCP.C05.tiText word)] = some (dur (k * unitLen kind)) ∧
      k * unitLen kind ≤ (d.natAbs : Int) ∧ (d.natAbs : Int) < (k + 1) * unitLen kind := by
  refine ⟨(d.natAbs : Int) / unitLen kind, ?_, Int.ediv_mul_le _ (Int.ne_of_gt (unitLen_pos hk)),
    Int.lt_ediv_add_one_mul_self _ (unitLen_pos hk)⟩
  simp [rules, hw]
  -- left: the rule's `if kind = … then some (|d| / len * len)` chain, the length of each unit written out
  rcases hk with rfl | rfl | rfl | rfl | rfl <;> simp [unitLen]

/-- every configured rule / unit / date pattern has at least two tokens (the hypothesis under which the
    rewrite loops terminate, C01) -/
theorem patterns_at_least_two : Gen.patternLengths.all (fun n => decide (2 ≤ n)) = true := by decide

example : durationParts 90061 = [(3, 1), (2, 1), (1, 1), (0, 1)] := by decide
example : durationOfUnit 7 2 = some 7200 := by decide

end SCP.C10
