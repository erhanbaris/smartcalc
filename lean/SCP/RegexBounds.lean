/-
  SCP.RegexBounds — every position the regex simulation reports (start, end and every capture
  group of a match) lies inside the line, `≤ cs.size`, and not in front of the position the search
  started at.  One invariant gives both: a capture slot is only ever set to the position the search
  stands at (`addThreads`, instruction `save`), so a property `P` of all positions the search visits —
  those from `start` to `cs.size` — holds of every slot of every thread (`findLoop_all`).  These are the
  positions the lexer hands to `LineBuf.byte` (that composition is not a theorem of this file).
-/
import SC.Regex
namespace SCP.RegexBounds
open SC

def SlotsLe (p : Nat) (sl : Slots) : Prop := ∀ (i v : Nat), sl[i]? = some (some v) → v ≤ p

def ThreadsLe (p : Nat) (ts : Array Thread) : Prop := ∀ t ∈ ts.toList, SlotsLe p t.slots

theorem threadsLe_mono {p q : Nat} (h : p ≤ q) {ts : Array Thread} (hs : ThreadsLe p ts) : ThreadsLe q ts :=
  fun t ht i v hv => Nat.le_trans (hs t ht i v hv) h

/-- `SlotsLe p` is `SlotsAll (· ≤ p)` -/
def SlotsAll (P : Nat → Prop) (sl : Slots) : Prop := ∀ (i v : Nat), sl[i]? = some (some v) → P v

def ThreadsAll (P : Nat → Prop) (ts : Array Thread) : Prop := ∀ t ∈ ts, SlotsAll P t.slots

theorem SlotsAll.set {P : Nat → Prop} {sl : Slots} (h : SlotsAll P sl) {v : Nat} (hv : P v) (n : Nat) :
    SlotsAll P (sl.set! n (some v)) := by
  intro i w hw
  rw [Array.set!_eq_setIfInBounds, Array.getElem?_setIfInBounds] at hw
  split at hw
  · split at hw <;> cases hw    -- the slot written (nothing there if `n` is out of range)
    exact hv
  · exact h i w hw              -- another slot

theorem SlotsAll.replicate (P : Nat → Prop) (n : Nat) : SlotsAll P (Array.replicate n none) := by
  intro i v h
  rw [Array.getElem?_replicate] at h
  split at h <;> cases h

theorem addThreads_all (P : Nat → Prop) (T : UTables) (cs : Array Char) (prog : Array Inst) {pos : Nat} (hP : P pos)
    (fuel : Nat) (stack : List (Nat × Slots)) (seen : Array Bool) (acc : Array Thread)
    (hst : ∀ e ∈ stack, SlotsAll P e.2) (hacc : ThreadsAll P acc) :
    ThreadsAll P (addThreads T cs prog pos fuel stack seen acc).2 := by
  fun_induction addThreads T cs prog pos fuel stack seen acc
  case case1 | case2 => exact hacc
  all_goals simp only [List.forall_mem_cons] at *
  case case3 ih => exact ih hst.2 hacc                        -- seen or out of range: popped
  case case4 ih => exact ih hst hacc                          -- jmp
  case case5 ih => exact ih ⟨hst.1, hst⟩ hacc                 -- split
  case case6 ih => exact ih ⟨hst.1.set hP _, hst.2⟩ hacc      -- save: the one write, of `pos`
  case case7 ih => exact ih hst hacc                          -- wordb holds
  case case8 ih => exact ih hst.2 hacc                        -- wordb fails
  case case9 ih => exact ih hst.2 (Array.forall_mem_push.mpr ⟨hst.1, hacc⟩)   -- chr, done: the thread waits

/-- one step: the only position it writes is `pos + 1`, and only when the line has a character at `pos` -/
theorem stepThreads_all (P : Nat → Prop) (T : UTables) (cs : Array Char) (prog : Array Inst) {pos : Nat}
    (hP : pos < cs.size → P (pos + 1)) (clist : Array Thread) (h : ThreadsAll P clist) :
    ThreadsAll P (stepThreads T cs prog pos clist).1 ∧ ∀ sl, (stepThreads T cs prog pos clist).2 = some sl → SlotsAll P sl := by
  unfold stepThreads
  apply Array.foldl_induction (motive := fun _ (st : Array Bool × Array Thread × Option Slots × Bool) =>
    ThreadsAll P st.2.1 ∧ ∀ sl, st.2.2.1 = some sl → SlotsAll P sl)
  · exact ⟨nofun, nofun⟩
  rintro i ⟨seen, nlist, found, cut⟩ hst
  have hth := h _ (Array.getElem_mem i.isLt)
  dsimp only
  cases cut
  case true => exact hst                                      -- cut: a thread of higher priority has matched
  rw [if_neg Bool.false_ne_true]
  split
  · by_cases hpos : pos < cs.size                             -- chr
    · rw [dif_pos hpos]
      split
      · exact ⟨addThreads_all P T cs prog (hP hpos) _ _ _ _ (List.forall_mem_singleton.mpr hth) hst.1, hst.2⟩   -- taken: on to `pos + 1`
      · exact hst                                             -- another character: the thread dies
    · rw [dif_neg hpos]; exact hst                            -- end of the line
  · exact ⟨hst.1, by rintro _ ⟨⟩; exact hth⟩                  -- done: its slots are the match
  · exact hst                                                 -- any other instruction never waits in a list

theorem findLoop_all (P : Nat → Prop) (T : UTables) (cs : Array Char) (prog : Array Inst) (empty : Slots) (he : SlotsAll P empty)
    (n pos : Nat) (pending : Array Thread) (found : Option Slots) (hP : ∀ p, pos ≤ p → p ≤ cs.size → P p)
    (hp : ThreadsAll P pending) (hf : ∀ sl, found = some sl → SlotsAll P sl) :
    ∀ sl, findLoop T cs prog empty n pos pending found = some sl → SlotsAll P sl := by
  fun_induction findLoop T cs prog empty n pos pending found
  case case1 | case2 | case3 => exact hf
  case case4 ih => exact ih (fun p h => hP p (Nat.le_of_succ_le h)) nofun nofun
  case case5 pos _ _ hpos clist _ _ m hstep ih =>
    have hclist : ThreadsAll P clist := by
      unfold clist; split
      · exact addThreads_all P T cs prog (hP pos (Nat.le_refl _) (Nat.le_of_not_lt hpos)) _ _ _ _ (List.forall_mem_singleton.mpr he) hp
      · exact hp
    have hs := stepThreads_all P T cs prog (hP (pos + 1) (Nat.le_succ _)) clist hclist
    rw [hstep] at hs
    refine ih (fun p h => hP p (Nat.le_of_succ_le h)) hs.1 ?_
    cases m with
    | some sl => rintro _ ⟨⟩; exact hs.2 _ rfl
    | none => exact hf

theorem getElem?_of_getElem! {sl : Slots} {i v : Nat} (h : sl[i]! = some v) : sl[i]? = some (some v) := by
  rw [getElem!_def] at h
  split at h
  · subst h; assumption
  · cases h

/-- slots 0 and 1 are the start and the end of the match -/
theorem find_slots (T : UTables) (cs : Array Char) (r : Re) (start : Nat) (m : RMatch) (h : Re.find T cs r start = some m) :
    SlotsAll (fun v => start ≤ v ∧ v ≤ cs.size) m.slots ∧ m.slots[0]? = some (some m.start) ∧ m.slots[1]? = some (some m.stop) := by
  unfold Re.find at h
  dsimp only at h
  split at h
  next sl hsl =>
    split at h <;> cases h
    rename_i hs he
    exact ⟨findLoop_all _ T cs _ _ (.replicate _ _) _ start #[] none (fun p h1 h2 => ⟨h1, h2⟩) nofun nofun sl hsl,
      getElem?_of_getElem! hs, getElem?_of_getElem! he⟩
  · cases h

/-- every match lies inside the line, and so does every capture group -/
theorem find_in_bounds (T : UTables) (cs : Array Char) (r : Re) (start : Nat) (m : RMatch) (h : Re.find T cs r start = some m) :
    m.start ≤ cs.size ∧ m.stop ≤ cs.size ∧ SlotsLe cs.size m.slots :=
  have ⟨ha, h0, h1⟩ := find_slots T cs r start m h
  ⟨(ha _ _ h0).2, (ha _ _ h1).2, fun i v hv => (ha i v hv).2⟩

theorem find_from (T : UTables) (cs : Array Char) (r : Re) (start : Nat) (m : RMatch) (h : Re.find T cs r start = some m) :
    start ≤ m.start ∧ start ≤ m.stop :=
  have ⟨ha, h0, h1⟩ := find_slots T cs r start m h
  ⟨(ha _ _ h0).1, (ha _ _ h1).1⟩

/-- what `captures_iter` yields: each match is found by a search that starts at or behind the end of its predecessor -/
theorem all_induction {T : UTables} {cs : Array Char} {r : Re} (Q : Nat → List RMatch → Prop) (nil : ∀ s, Q s [])
    (cons : ∀ s s' m l, s ≤ s' → Re.find T cs r s' = some m → Q m.stop l → Q s (m :: l)) : Q 0 (Re.all T cs r) := by
  unfold Re.all
  generalize cs.size + 2 = fuel, 0 = start, none = last
  fun_induction Re.all.go T cs r fuel start last
  case case1 | case2 | case3 => exact nil _
  case case4 start _ _ m0 hm0 m? m1 hm1 ih =>
    unfold m? at hm1
    split at hm1
    · exact cons start (start + 1) m1 _ (Nat.le_succ _) hm1 ih
    · cases hm1; exact cons start start m0 _ (Nat.le_refl _) hm0 ih

-- elaborating `all_induction Chain ..` would otherwise evaluate `Re.all` on the way to the head normal form of `Chain 0 (Re.all ..)`
attribute [local irreducible] Re.all

/-- every match `captures_iter` yields lies inside the line -/
theorem all_in_bounds (T : UTables) (cs : Array Char) (r : Re) :
    ∀ m ∈ Re.all T cs r, m.start ≤ cs.size ∧ m.stop ≤ cs.size ∧ SlotsLe cs.size m.slots :=
  all_induction (fun _ l => ∀ m ∈ l, m.start ≤ cs.size ∧ m.stop ≤ cs.size ∧ SlotsLe cs.size m.slots) (fun _ => nofun)
    fun _ s' m _ _ hm ih => List.forall_mem_cons.mpr ⟨find_in_bounds T cs r s' m hm, ih⟩

theorem cap_in_bounds (n : NRe) (m : RMatch) (size : Nat) (hm : SlotsLe size m.slots) (name : String) (s e : Nat)
    (h : n.cap m name = some (s, e)) : s ≤ size ∧ e ≤ size := by
  unfold NRe.cap at h
  split at h
  · split at h
    next hs he =>               -- the group exists and both its slots are set
      cases h
      exact ⟨hm _ _ hs, hm _ _ he⟩
    · cases h
  · cases h

def Chain : Nat → List RMatch → Prop
  | _, [] => True
  | lo, m :: rest => lo ≤ m.start ∧ lo ≤ m.stop ∧ Chain m.stop rest

/-- `captures_iter` yields its matches in text order and without overlap -/
theorem all_chain (T : UTables) (cs : Array Char) (r : Re) : Chain 0 (Re.all T cs r) :=
  all_induction Chain (fun _ => trivial) fun _ s' m _ hs hm ih =>
    have ⟨h1, h2⟩ := find_from T cs r s' m hm
    ⟨Nat.le_trans hs h1, Nat.le_trans hs h2, ih⟩

end SCP.RegexBounds
