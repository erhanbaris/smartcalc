/-
  SCP.C11 — Clock times and zones: conversion keeps the instant, arithmetic is modulo 24 h.
  Integer arithmetic over ALL instants, ALL offsets (minutes), ALL durations.
-/
import SC.Rules
import SC.Format
import SC.Engine
import SC.Gen.Config
import SC.Gen.Tables
import SCP.C05
import SCP.Lemmas.Rules
namespace SCP.C11
open SC SCP.Match

/-- seconds after local midnight that `TimeItem::print` shows for an instant in a zone -/
def shown (secs : Int) (off : Int) : Int := (secs + off * 60) % 86400

def tim (s : Int) (z : Zone) : Tok Rat := .item (.time s z)
attribute [rules] tim

/-- `H:MM Z` (rule time_with_timezone): a wall time that was anchored in the default zone `dflt`
    (instant = midnight + wall − 60·dflt) is re-anchored in `Z`: the instant becomes
    midnight + wall − 60·off(Z), whatever the default zone was. -/
theorem with_zone (c : Cfg Rat) (lang) (now) (vs : Vars Rat) (midnight wall dflt off : Int) (dname zname : String) :
    applyRule c lang now vs .timeWithTimezone
        [("time", SCP.C05.ti (tim (midnight + wall - dflt * 60) ⟨dname, dflt⟩)),
         ("timezone", ⟨0, 0, some (.tz zname off), "", true⟩)] =
      some (tim (midnight + wall - off * 60) ⟨zname.toUpper, off⟩) := by
  simp [rules, uppercaseAscii]

/-- the shown time of `H:MM Z` is the wall time that was written (mod 24 h) -/
theorem with_zone_shows_wall (midnight wall off : Int) (hm : midnight % 86400 = 0) :
    shown (midnight + wall - off * 60) off = wall % 86400 := by
  unfold shown
  -- remainders of sums, here and below by the `emod` lemmas: `omega` proves each of these goals at three times the cost
  rw [Int.sub_add_cancel, Int.add_emod, hm, Int.zero_add, Int.emod_emod]

/-- `T to Z₂` (rule convert_timezone) keeps the instant and only swaps the display zone -/
theorem convert_keeps_instant (c : Cfg Rat) (lang) (now) (vs : Vars Rat) (s off2 : Int) (z1 : Zone) (zname : String) :
    applyRule c lang now vs .convertTimezone
        [("time", SCP.C05.ti (tim s z1)), ("timezone", ⟨0, 0, some (.tz zname off2), "", true⟩)] =
      some (tim s ⟨zname.toUpper, off2⟩) := by
  simp [rules, uppercaseAscii]

theorem convert_shown (midnight wall off1 off2 : Int) (hm : midnight % 86400 = 0) :
    shown (midnight + wall - off1 * 60) off2 = (wall - off1 * 60 + off2 * 60) % 86400 := by
  unfold shown
  rw [Int.add_sub_assoc, Int.add_assoc, Int.add_emod, hm, Int.zero_add, Int.emod_emod]

/-- adding a duration moves the clock by that amount modulo 24 hours -/
theorem add_duration (rates) (conv) (s d : Int) (z : Zone) (hd : 0 ≤ d) :
    ∃ s', calcItem (F := Rat) rates conv (.time s z) (.duration d) .add = some (.time s' z) ∧
      shown s' z.off = (shown s z.off + d) % 86400 := by
  refine ⟨s + (d.natAbs : Int) % 86400, ?_, ?_⟩
  · have : ¬ d < 0 := by omega
    simp [rules, this]
  · unfold shown
    rw [Int.natAbs_of_nonneg hd, Int.emod_add_emod, Int.add_right_comm, Int.add_emod_emod, Int.add_right_comm]

theorem sub_duration (rates) (conv) (s d : Int) (z : Zone) (hd : 0 ≤ d) :
    ∃ s', calcItem (F := Rat) rates conv (.time s z) (.duration d) .sub = some (.time s' z) ∧
      shown s' z.off = (shown s z.off - d) % 86400 := by
  refine ⟨s - (d.natAbs : Int) % 86400, ?_, ?_⟩
  · have : ¬ d < 0 := by omega
    simp [rules, this]
  · unfold shown
    rw [Int.natAbs_of_nonneg hd, Int.emod_sub_emod,
      show s - d % 86400 + z.off * 60 = s + z.off * 60 - d % 86400 by omega, Int.sub_emod_emod]

/-- `T1 to T2` is the absolute difference of the two instants, symmetric in T1 and T2 -/
theorem to_abs (c : Cfg Rat) (lang) (now) (vs : Vars Rat) (s t : Int) (z1 z2 : Zone) :
    applyRule c lang now vs .toDuration [("source", SCP.C05.ti (tim s z1)), ("target", SCP.C05.ti (tim t z2))] =
      some (.item (.duration (if t > s then t - s else s - t))) := by
  simp [rules]

theorem to_symmetric (s t : Int) : (if t > s then t - s else s - t) = (if s > t then s - t else t - s) := by
  lia

theorem print_fields (s : Int) (z : Zone) :
    printTime s z = pad2 (shown s z.off / 3600) ++ ":" ++ pad2 (shown s z.off % 3600 / 60) ++ ":" ++
      pad2 (shown s z.off % 60) ++ " " ++ z.name := by
  simp [printTime, shown, localSecs]

/-- every configured zone offset is within ±14 h (so `FixedOffset::east` is always in its domain) -/
theorem zone_offsets_in_range : Gen.zoneOffsets.all (fun o => decide (-840 ≤ o ∧ o ≤ 840)) = true := by decide

/-- the generated `time_with_timezone` pattern matches `<time> <zone>` -/
theorem phrase_with_zone (s off : Int) (z : Zone) (zname : String) :
    ∃ pat, (Gen.rule_en_time_with_timezone Rat).patterns[0]? = some pat ∧
      (findMatch ([] : Vars Rat) pat [SCP.C05.ti (tim s z), ⟨0, 0, some (.tz zname off), "", true⟩]).found = true :=
  ⟨_, rfl, findMatch_found ⟨hit_field, hit_field, trivial⟩⟩

example : shown (11 * 3600 + 30 * 60 + 5 * 3600) (-300) = 11 * 3600 + 30 * 60 := by decide

end SCP.C11
