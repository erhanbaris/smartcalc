/-
  SCP.C12 — Unit conversion matches the unit definitions; linear, invertible, transitive.

  The theorems are about the model functions `calculateUnitWith` / `convertUnitWith`
  (SC/Units.lean: `calculate_unit`, `convert` of src/compiler/dynamic_type.rs) for EVERY code
  executor `ex` that multiplies by the factor its code text denotes (`ExecIsMult`; the factor
  table `Gen.codeFactors` is regenerated from config.json on every run).  What the real executor
  (`execute_code`: substitute the number's text, tokenise, parse, interpret) does is the subject of
  SCP.C12Exec: it multiplies by the code's factor for every amount whose printed text reads back —
  one step at a time; `ExecIsMult` asks it of ALL amounts, so the walk theorems here are not
  instantiated with the real executor, which is compared bit-for-bit by the correspondence run
  (model `executeCode` over doubles vs the implementation) and by the exact-rational oracle.

  Along a contiguous index chain whose neighbouring codes are mutually inverse, conversion is multiplication
  by `weight p / weight q` (`calc_factor`), hence linear, invertible, transitive; `convert` inside a family and through a
  configured bridge; quantities of different kinds are never converted.  The data obligations are re-checked by the kernel
  on the regenerated tables: every configured family is such a chain (`gen_chains`), the weights ARE the standard
  definitions (`gen_weights_*`), the bridges are 1 in = 25.4 mm and 1 oz = 28349.5231 mg with mutually inverse codes.
-/
import SC.Units
import SC.Gen.Config
import SC.Gen.Tables
import SCP.Lemmas.C12
import SCP.Lemmas.Rules
import SCP.Lemmas.C13
namespace SCP.C12
open SC
open SCP.Lemmas.C12
open SCP.Lemmas.C13 (div_self div_mul_div_cancel)

/-- the multiplier a conversion code text denotes, from the regenerated table -/
def mult (code : String) : Rat :=
  match assoc? Gen.codeFactors code with
  | some (n, d) => (n : Rat) / (d : Rat)
  | none => 0

def factor (m : String → Rat) (items : List UI) (p q : Nat) : Rat := weight m items p / weight m items q

/-- linear: converting amount `v` from the unit at position `p` to the unit at position `q`
    multiplies it by a factor that does not depend on `v` -/
theorem calc_factor (ex : String → Rat → Option Rat) (m : String → Rat) (items : List UI) (lo : Nat)
    (hch : Chain items lo) (hex : ExecIsMult ex m items) (hinv : InversePairs m items)
    (p q : Nat) (hp : p < items.length) (hq : q < items.length) (v : Rat) :
    calculateUnitWith ex items v (lo + p) (lo + q) = some (v * factor m items p q) :=
  calculateUnit_weights ex m items lo hch hex hinv p q hp hq v

theorem factor_self (m : String → Rat) (items : List UI) (hinv : InversePairs m items) (p : Nat) (hp : p < items.length) :
    factor m items p p = 1 :=
  div_self (weight_ne_zero m items hinv p hp)

/-- transitive: the factors compose -/
theorem factor_trans (m : String → Rat) (items : List UI) (hinv : InversePairs m items)
    (p q r : Nat) (hq : q < items.length) :
    factor m items p q * factor m items q r = factor m items p r :=
  div_mul_div_cancel _ _ (weight_ne_zero m items hinv q hq)

/-- invertible: the factor back is the inverse -/
theorem factor_inverse (m : String → Rat) (items : List UI) (hinv : InversePairs m items)
    (p q : Nat) (hp : p < items.length) (hq : q < items.length) :
    factor m items p q * factor m items q p = 1 := by
  rw [factor_trans m items hinv p q p hq, factor_self m items hinv p hp]

/-- A to B and back returns the original amount -/
theorem round_trip (ex : String → Rat → Option Rat) (m : String → Rat) (items : List UI) (lo : Nat)
    (hch : Chain items lo) (hex : ExecIsMult ex m items) (hinv : InversePairs m items)
    (p q : Nat) (hp : p < items.length) (hq : q < items.length) (v : Rat) :
    (calculateUnitWith ex items v (lo + p) (lo + q)).bind (fun w => calculateUnitWith ex items w (lo + q) (lo + p)) = some v := by
  have cf := calc_factor ex m items lo hch hex hinv
  rw [cf p q hp hq, Option.bind_some, cf q p hq hp, Rat.mul_assoc, factor_inverse m items hinv p q hp hq, Rat.mul_one]

/-- A to B to C equals A to C -/
theorem via_third (ex : String → Rat → Option Rat) (m : String → Rat) (items : List UI) (lo : Nat)
    (hch : Chain items lo) (hex : ExecIsMult ex m items) (hinv : InversePairs m items)
    (p q r : Nat) (hp : p < items.length) (hq : q < items.length) (hr : r < items.length) (v : Rat) :
    (calculateUnitWith ex items v (lo + p) (lo + q)).bind (fun w => calculateUnitWith ex items w (lo + q) (lo + r)) =
      calculateUnitWith ex items v (lo + p) (lo + r) := by
  have cf := calc_factor ex m items lo hch hex hinv
  rw [cf p q hp hq, Option.bind_some, cf q r hq hr, Rat.mul_assoc, factor_trans m items hinv p q r hq, cf p r hp hr]

theorem convert_in_family (ex : String → Rat → Option Rat) (m : String → Rat) (c : Cfg Rat) (g target : String)
    (items : List UI) (lo p q : Nat) (t : UI) (v : Rat)
    (hg : assoc? c.units g = some items) (ht : items.find? (fun it => it.names.contains target) = some t)
    (hch : Chain items lo) (hex : ExecIsMult ex m items) (hinv : InversePairs m items)
    (hp : p < items.length) (hq : q < items.length) (hti : t.index = lo + q) :
    convertUnitWith ex c v ⟨g, lo + p⟩ target = some (v * factor m items p q, ⟨g, lo + q⟩) := by
  unfold convertUnitWith
  simp only [hg, ht, hti]
  by_cases hpq : p = q
  · subst hpq
    rw [if_pos rfl, factor_self m items hinv p hp, Rat.mul_one]
  · rw [if_neg (by omega), calc_factor ex m items lo hch hex hinv p q hp hq, Option.map_some]

/-- conversion through a bridge, from the family on the bridge's source side:
    to the bridge's own unit, across, and on to the target unit -/
theorem convert_across_bridge (ex : String → Rat → Option Rat) (m : String → Rat) (c : Cfg Rat) (target : String)
    (b : Bridge) (items items' : List UI) (lo lo' p bp bq q : Nat) (t : UI) (v : Rat)
    (hg : assoc? c.units b.srcName = some items)
    (hnot : items.find? (fun it => it.names.contains target) = none)
    (hb : c.bridges.find? (fun x => x.srcName = b.srcName || x.tgtName = b.srcName) = some b)
    (hg' : assoc? c.units b.tgtName = some items')
    (ht : items'.find? (fun it => it.names.contains target) = some t)
    (hch : Chain items lo) (hex : ExecIsMult ex m items) (hinv : InversePairs m items)
    (hch' : Chain items' lo') (hex' : ExecIsMult ex m items') (hinv' : InversePairs m items')
    (hbx : ∀ w, ex b.toSource w = some (w * m b.toSource))
    (hp : p < items.length) (hbp : bp < items.length) (hbq : bq < items'.length) (hq : q < items'.length)
    (hbs : b.srcIndex = lo + bp) (hbt : b.tgtIndex = lo' + bq) (hti : t.index = lo' + q) :
    convertUnitWith ex c v ⟨b.srcName, lo + p⟩ target =
      some (v * factor m items p bp * m b.toSource * factor m items' bq q, ⟨b.tgtName, lo' + q⟩) := by
  unfold convertUnitWith
  simp only [hg, hnot, hb, if_true, hbs, hbt, findItem_at items lo hch bp hbp, findItem_at items' lo' hch' bq hbq,
    calc_factor ex m items lo hch hex hinv p bp hp hbp, hbx, hg', ht, hti,
    calc_factor ex m items' lo' hch' hex' hinv' bq q hbq hq, Option.map_some]

/-- the same from the family on the bridge's target side -/
theorem convert_across_bridge_rev (ex : String → Rat → Option Rat) (m : String → Rat) (c : Cfg Rat) (target : String)
    (b : Bridge) (items items' : List UI) (lo lo' p bp bq q : Nat) (t : UI) (v : Rat)
    (hne : b.srcName ≠ b.tgtName)
    (hg : assoc? c.units b.tgtName = some items)
    (hnot : items.find? (fun it => it.names.contains target) = none)
    (hb : c.bridges.find? (fun x => x.srcName = b.tgtName || x.tgtName = b.tgtName) = some b)
    (hg' : assoc? c.units b.srcName = some items')
    (ht : items'.find? (fun it => it.names.contains target) = some t)
    (hch : Chain items lo) (hex : ExecIsMult ex m items) (hinv : InversePairs m items)
    (hch' : Chain items' lo') (hex' : ExecIsMult ex m items') (hinv' : InversePairs m items')
    (hbx : ∀ w, ex b.toTarget w = some (w * m b.toTarget))
    (hp : p < items.length) (hbp : bp < items.length) (hbq : bq < items'.length) (hq : q < items'.length)
    (hbs : b.tgtIndex = lo + bp) (hbt : b.srcIndex = lo' + bq) (hti : t.index = lo' + q) :
    convertUnitWith ex c v ⟨b.tgtName, lo + p⟩ target =
      some (v * factor m items p bp * m b.toTarget * factor m items' bq q, ⟨b.srcName, lo' + q⟩) := by
  unfold convertUnitWith
  simp only [hg, hnot, hb, hne, if_false, hbs, hbt, findItem_at items lo hch bp hbp, findItem_at items' lo' hch' bq hbq,
    calc_factor ex m items lo hch hex hinv p bp hp hbp, hbx, hg', ht, hti,
    calc_factor ex m items' lo' hch' hex' hinv' bq q hbq hq, Option.map_some]

def targetIn (items : List UI) (target : String) : Bool := items.any (fun it => it.names.contains target)

theorem find_none_of_targetIn (items : List UI) (target : String) (h : targetIn items target = false) :
    items.find? (fun it => it.names.contains target) = none :=
  List.find?_eq_none.mpr (List.any_eq_false.mp h)

/-- `convert` yields nothing when the target name belongs neither to the quantity's own family
    nor to the family on the other side of the (first) bridge that mentions its family -/
theorem cross_kind_none (ex : String → Rat → Option Rat) (c : Cfg Rat) (v : Rat) (src : UnitRef) (target : String)
    (h1 : ∀ items, assoc? c.units src.group = some items → targetIn items target = false)
    (h2 : ∀ b og, c.bridges.find? (fun x => x.srcName = src.group || x.tgtName = src.group) = some b →
      assoc? c.units (if b.srcName = src.group then b.tgtName else b.srcName) = some og → targetIn og target = false) :
    convertUnitWith ex c v src target = none := by
  unfold convertUnitWith
  cases hg : assoc? c.units src.group with
  | none => rfl
  | some items =>
    simp only [find_none_of_targetIn items target (h1 items hg)]
    cases hb : c.bridges.find? (fun x => x.srcName = src.group || x.tgtName = src.group) with
    | none => rfl
    | some b =>
      simp only
      split
      · rfl                          -- the bridge's item is not in this family
      · split
        · rfl                        -- the walk to the bridge's item fails
        · split
          · rfl                      -- the bridge code fails
          · split
            · rfl                    -- no family across the bridge
            · rename_i og hog
              simp only [find_none_of_targetIn og target (h2 b og hb hog)]

/-- `Chain` and (below) `InversePairs` as Boolean checks, which the kernel evaluates on the configured families in
    `gen_chains`; a family that passes them satisfies the two hypotheses of the theorems above -/
def chainB : List UI → Nat → Bool
  | [], _ => true
  | it :: rest, lo => it.index == lo && chainB rest (lo + 1)

theorem chain_of_chainB (items : List UI) (lo : Nat) (h : chainB items lo = true) : Chain items lo := by
  induction items generalizing lo with
  | nil => trivial
  | cons it rest ih =>
    simp only [chainB, Bool.and_eq_true, beq_iff_eq] at h
    exact ⟨h.1, ih (lo + 1) h.2⟩

def invB (m : String → Rat) : List UI → Bool
  | [] => true
  | [_] => true
  | a :: b :: rest => (m a.up * m b.down == 1) && invB m (b :: rest)

theorem inverse_of_invB (m : String → Rat) (items : List UI) (h : invB m items = true) : InversePairs m items := by
  intro p a b ha hb
  fun_induction invB m items generalizing p with
  | case1 => cases ha                       -- no item
  | case2 => cases p <;> cases hb           -- one item: no neighbour
  | case3 x y rest ih =>
    simp only [Bool.and_eq_true, beq_iff_eq] at h
    cases p with
    | zero => cases ha; cases hb; exact h.1
    | succ p => exact ih h.2 p ha hb

/-- lowest index and the weights of a configured family -/
def familySummary (g : String) : Option (Nat × List Rat) :=
  (assoc? (Gen.units Rat) g).map fun items =>
    ((items.head?.map (·.index)).getD 0, (List.range items.length).map (weight mult items))

/-- every configured family is a contiguous chain whose neighbouring codes are mutually inverse -/
theorem gen_chains :
    (Gen.units Rat).all (fun fam => chainB fam.2 ((fam.2.head?.map (·.index)).getD 0) && invB mult fam.2) = true := by
  decide +kernel

/-- the standard definitions: 12 in = 1 ft, 3 ft = 1 yd, 220 yd = 1 furlong, 8 furlong = 1 mile
    (1760 yd = 63360 in = 1 mile) -/
theorem gen_weights_imperial_length :
    familySummary "imperial-unit-length" = some (1, [1, 12, 36, 7920, 63360]) := by decide +kernel

/-- 16 oz = 1 lb, 14 lb = 1 stone -/
theorem gen_weights_imperial_weight :
    familySummary "imperial-unit-weight" = some (1, [1, 16, 224]) := by decide +kernel

/-- decimal metric prefixes: mm cm dm m dam hm km -/
theorem gen_weights_metric_length :
    familySummary "metric-length" = some (1, [1, 10, 100, 1000, 10000, 100000, 1000000]) := by decide +kernel

/-- mg cg dg g dag hg kg tonne -/
theorem gen_weights_metric_weight :
    familySummary "metric-weight" = some (1, [1, 10, 100, 1000, 10000, 100000, 1000000, 1000000000]) := by decide +kernel

/-- 8 bit = 1 byte, then 1024-based multiples up to YB -/
theorem gen_weights_memory :
    familySummary "memory" = some (1, ([1, 8, 8 * 1024, 8 * 1024 ^ 2, 8 * 1024 ^ 3, 8 * 1024 ^ 4, 8 * 1024 ^ 5,
      8 * 1024 ^ 6, 8 * 1024 ^ 7, 8 * 1024 ^ 8] : List Nat).map (fun (n : Nat) => (n : Rat))) := by decide +kernel

/-- the bridges: 1 inch = 25.4 mm and 1 oz = 28349.5231 mg (= 28.3495231 g), each between the
    lowest units of two families of the same kind, with mutually inverse codes -/
theorem gen_bridges :
    Gen.bridges.map (fun b => (b.srcName, b.srcIndex, b.tgtName, b.tgtIndex, mult b.toSource, mult b.toSource * mult b.toTarget)) =
      [("imperial-unit-length", 1, "metric-length", 1, (254 : Rat) / 10, 1),
       ("imperial-unit-weight", 1, "metric-weight", 1, (283495231 : Rat) / 10000, 1)] := by decide +kernel

/-- the kind of a family, as the property names them -/
def kindOf (g : String) : Option Nat :=
  if g = "imperial-unit-length" ∨ g = "metric-length" then some 0
  else if g = "imperial-unit-weight" ∨ g = "metric-weight" then some 1
  else if g = "memory" then some 2 else none

/-- for every pair of configured families of different kinds and every unit name of the second:
    the name is neither in the first family nor in the family bridged to it -/
def kindsSeparateB : Bool :=
  (Gen.units Rat).all fun fam =>
    (Gen.units Rat).all fun fam' =>
      if kindOf fam.1 = kindOf fam'.1 then true else
        (fam'.2.flatMap (·.names)).all fun target =>
          !targetIn fam.2 target &&
            (match Gen.bridges.find? (fun x => x.srcName = fam.1 || x.tgtName = fam.1) with
             | none => true
             | some b =>
               match assoc? (Gen.units Rat) (if b.srcName = fam.1 then b.tgtName else b.srcName) with
               | none => true
               | some og => !targetIn og target)

theorem gen_kinds_separate : kindsSeparateB = true := by decide +kernel

/-- `+` and `-` convert the right operand into the left operand's unit -/
theorem add_converts_right (rates : List (String × Rat)) (conv : Rat → UnitRef → Option Rat) (v w w' : Rat) (u u2 : UnitRef)
    (h : conv w u2 = some w') :
    calcItem rates conv (.dyn v u) (.dyn w u2) .add = some (.dyn (v + w') u) ∧
    calcItem rates conv (.dyn v u) (.dyn w u2) .sub = some (.dyn (v - w') u) := by
  simp [rules, h]

theorem add_needs_conversion (rates : List (String × Rat)) (conv : Rat → UnitRef → Option Rat) (v w : Rat) (u u2 : UnitRef) (op : BinOp)
    (h : conv w u2 = none) : calcItem rates conv (.dyn v u) (.dyn w u2) op = none := by
  simp [rules, h]

theorem scale_keeps_unit (rates : List (String × Rat)) (conv : Rat → UnitRef → Option Rat) (v k : Rat) (u : UnitRef) (t : NumType) :
    calcItem rates conv (.dyn v u) (.number k t) .mul = some (.dyn (v * k) u) ∧
    calcItem rates conv (.dyn v u) (.number k t) .div = some (.dyn (v / k) u) := by
  simp [rules]

theorem ratio_is_number (rates : List (String × Rat)) (conv : Rat → UnitRef → Option Rat) (v w w' : Rat) (u u2 : UnitRef)
    (h : conv w u2 = some w') :
    calcItem rates conv (.dyn v u) (.dyn w u2) .div = some (.number (v / w') .decimal) := by
  simp [rules, h]

/-- the walk inch → mile on the configured family, with the multiplying executor, gives 1/63360 (that the family is a chain
    with inverse neighbours is `gen_chains`) -/
example : calculateUnitWith (fun code v => some (v * mult code))
    ((assoc? (Gen.units Rat) "imperial-unit-length").getD []) 63360 1 5 = some 1 := by decide +kernel

end SCP.C12
