/-
  SCP.Lex — string level for the arithmetic sub-language: every spacing of a line lexes to the
  same tokens.

  `codeLex` (SC/Units.lean) is the model of the regex tokenizer restricted to the alphabet of
  digits, separators, blanks, ASCII letters and operator characters (it is what `basic_execute`
  runs on conversion codes; the check C02 also compares it with the implementation's own lexer on
  generated arithmetic lines).  A line is a list of PIECES — literal texts and operator
  characters — separated by arbitrary numbers of blanks (also at both ends) that do not glue a
  digit-initial literal to a preceding literal or sign (`Separated`).  `lex_spacing_irrelevant` is
  C16, clause 1, and `tree_line_eval` C02 at string level, each for this sub-language.
-/
import SC.Units
import SC.Spec.Arith
import SCP.C02
namespace SCP.Lex
open SC SC.Spec
variable {F : Type} [Num F]

inductive Piece (F : Type)
  | lit (txt : List Char) (v : F)
  | op (c : Char)

def Piece.text : Piece F → List Char
  | .lit txt _ => txt
  | .op c => [c]

def Piece.tok : Piece F → Tok F
  | .lit _ v => litTok v
  | .op c => .op (Op.ofChar c)

def isSignChar (c : Char) : Bool := c = '-' || c = '+'
def isOpChar (c : Char) : Bool := c = '+' || c = '-' || c = '*' || c = '/' || c = '(' || c = ')'

def startsDigit : List Char → Bool
  | d :: _ => isDigit d
  | [] => false

def LitOK (dec thou : String) (txt : List Char) (v : F) : Prop :=
  ∃ (sign : List Char) (d : Char) (more : List Char),
    txt = sign ++ d :: more ∧ (sign = [] ∨ sign = ['-'] ∨ sign = ['+']) ∧ isDigit d = true ∧
    (∀ c ∈ more, isNumBody c = true) ∧ readLiteral dec thou txt = some v

def PieceOK (dec thou : String) : Piece F → Prop
  | .lit txt v => LitOK dec thou txt v
  | .op c => isOpChar c = true

/-- what follows a piece does not continue it -/
def Piece.endsBefore (p : Piece F) (R : List Char) : Prop :=
  match p with
  | .lit _ _ => ∀ c, R.head? = some c → isNumBody c = false ∧ isAsciiLetter c = false
  | .op c => isSignChar c = true → startsDigit R = false

/-- the line: gap, piece, gap, piece, …, trailing gap -/
def render : List (Nat × Piece F) → Nat → List Char
  | [], t => List.replicate t ' '
  | (g, p) :: rest, t => List.replicate g ' ' ++ p.text ++ render rest t

def Separated : List (Nat × Piece F) → Nat → Prop
  | [], _ => True
  | (_, p) :: rest, t => p.endsBefore (render rest t) ∧ Separated rest t

/-! ### one scanner step

`codeLex` is unfolded here and nowhere else: `lexTok` is the token it claims at the head of a text that does not start
with a blank, together with what is left. -/

def startsNum (c : Char) (rest : List Char) : Bool := isDigit c || (isSignChar c && startsDigit rest)

/-- A literal is its first character and the run of number-body characters behind it, whether that character is a sign or a
    digit: `codeLex` takes the run from the digit on, and a digit is a number-body character (likewise a word and its
    letters). -/
def lexTok (dec thou : String) : List Char → Option (Tok F × List Char)
  | [] => none
  | c :: rest =>
    if startsNum c rest then
      let after := rest.dropWhile isNumBody
      match (readLiteral dec thou (c :: rest.takeWhile isNumBody) : Option F) with
      | none => none
      | some v =>
        match notationMul (after.takeWhile isAsciiLetter) with
        | some k => some (.item (.number (Num.mul v (Num.ofRat false (1000 ^ k) 1)) .decimal), after.dropWhile isAsciiLetter)
        | none => some (.item (.number v .decimal), after)
    else if isAsciiLetter c then
      some (.text (String.ofList (c :: rest.takeWhile isAsciiLetter)), rest.dropWhile isAsciiLetter)
    else if c.toNat < 128 && c ≠ '[' && c ≠ '{' && c ≠ '#' && c ≠ '%' && c ≠ ':' && c ≠ '$' then
      some (.op (Op.ofChar c), rest)
    else none

/-- the scanner's look-ahead for a digit behind a sign.  `SC.codeLex.match_1` is the name Lean generates for the first
    `match` in the body of `codeLex`: a `match` added in front of it there renames it.  (A `match` written out here would be
    another constant, equal to it only after unfolding, and `simp` would not rewrite with it.) -/
theorem lookahead_eq (rest : List Char) :
    SC.codeLex.match_1 (fun _ => Bool) rest (fun d _ => isDigit d) (fun _ => false) = startsDigit rest := by
  cases rest <;> rfl

theorem drop_takeWhile_length (p : Char → Bool) (s : List Char) : s.drop (s.takeWhile p).length = s.dropWhile p :=
  (congrArg (List.drop _) List.takeWhile_append_dropWhile.symm).trans List.drop_left

theorem bind_ite {α β : Type} (P : Prop) [Decidable P] (x y : Option α) (k : α → Option β) :
    (if P then x else y).bind k = if P then x.bind k else y.bind k := apply_ite (Option.bind · k) P x y

theorem codeLex_cons (dec thou : String) (fuel : Nat) (c : Char) (rest : List Char) :
    (codeLex dec thou (fuel + 1) (c :: rest) : Option (List (Tok F))) =
      if c = ' ' then codeLex dec thou fuel rest
      else (lexTok dec thou (c :: rest)).bind fun p => (codeLex dec thou fuel p.2).map (p.1 :: ·) := by
  simp only [codeLex, lookahead_eq, drop_takeWhile_length, lexTok, bind_ite, Option.bind_some, Option.bind_none,
    show (decide (c = '-') || decide (c = '+')) = isSignChar c from rfl]
  -- both sides now take the same branch at every test
  refine ite_congr rfl (fun _ => rfl) fun _ => ite_congr rfl (fun hnum => ?_) fun _ => ite_congr rfl (fun hlet => ?_) fun _ => rfl
  · -- a literal: whether a sign `s` is split off or not, its text is `c` and the run of number-body characters behind it
    have hspan : ∀ s : Bool, (isDigit c || s) = true →
        (if s = true then [c] else []) ++ (if s = true then rest else c :: rest).takeWhile isNumBody = c :: rest.takeWhile isNumBody ∧
          (if s = true then rest else c :: rest).dropWhile isNumBody = rest.dropWhile isNumBody := by
      intro s hs
      cases s
      · have hnb : isNumBody c = true := by simp_all [isNumBody]
        simp only [Bool.false_eq_true, if_false, List.nil_append, List.takeWhile_cons_of_pos hnb, List.dropWhile_cons_of_pos hnb,
          and_self]
      · exact ⟨rfl, rfl⟩
    simp only [hspan _ hnum]
    cases (readLiteral dec thou _ : Option F) with
    | none => rfl
    | some v => cases notationMul _ <;> rfl
  · simp only [List.takeWhile_cons_of_pos hlet, List.dropWhile_cons_of_pos hlet]   -- a word

theorem codeLex_of_lexTok {dec thou : String} {c : Char} {rest r : List Char} {t : Tok F}
    (h : lexTok dec thou (c :: rest) = some (t, r)) (hb : c ≠ ' ') (fuel : Nat) :
    codeLex dec thou (fuel + 1) (c :: rest) = (codeLex dec thou fuel r).map (t :: ·) := by
  rw [codeLex_cons, if_neg hb, h]; rfl

theorem lex_blanks (dec thou : String) (g fuel : Nat) (R : List Char) :
    (codeLex dec thou (fuel + g) (List.replicate g ' ' ++ R) : Option (List (Tok F))) = codeLex dec thou fuel R := by
  induction g with
  | zero => simp
  | succ g ih =>
    rw [show fuel + (g + 1) = (fuel + g) + 1 by omega, List.replicate_succ, List.cons_append, codeLex_cons, if_pos rfl]
    exact ih

theorem isDigit_not_space : isDigit ' ' = false := by decide

theorem opChar_class {c : Char} (hc : isOpChar c = true) :
    c ≠ ' ' ∧ isDigit c = false ∧ isAsciiLetter c = false ∧
      (c.toNat < 128 && c ≠ '[' && c ≠ '{' && c ≠ '#' && c ≠ '%' && c ≠ ':' && c ≠ '$') = true := by
  simp only [isOpChar, Bool.or_eq_true, decide_eq_true_eq] at hc
  rcases hc with ((((rfl | rfl) | rfl) | rfl) | rfl) | rfl <;> decide

theorem lexTok_op (dec thou : String) (c : Char) (hc : isOpChar c = true) (R : List Char)
    (h : isSignChar c = true → startsDigit R = false) :
    (lexTok dec thou (c :: R) : Option (Tok F × List Char)) = some (.op (Op.ofChar c), R) := by
  obtain ⟨_, hd, hl, hop⟩ := opChar_class hc
  have hsn : startsNum c R = false := by
    rw [startsNum, hd, Bool.false_or, Bool.and_eq_false_imp]; exact h
  simp only [lexTok, hsn, hl, Bool.false_eq_true, if_false, if_pos hop]

theorem span_append {p : Char → Bool} {l R : List Char} (hl : ∀ c ∈ l, p c = true)
    (hR : ∀ c, R.head? = some c → p c = false) :
    (l ++ R).takeWhile p = l ∧ (l ++ R).dropWhile p = R := by
  have : R.takeWhile p = [] ∧ R.dropWhile p = R := by
    cases R with
    | nil => exact ⟨rfl, rfl⟩
    | cons r rs => simp [List.takeWhile, List.dropWhile, hR r rfl]
  rw [List.takeWhile_append_of_pos hl, List.dropWhile_append_of_pos hl, this.1, this.2, List.append_nil]
  exact ⟨rfl, rfl⟩

theorem lexTok_lit (dec thou : String) (txt : List Char) (v : F) (hl : LitOK dec thou txt v) (R : List Char)
    (hR : ∀ c, R.head? = some c → isNumBody c = false ∧ isAsciiLetter c = false) :
    (lexTok dec thou (txt ++ R) : Option (Tok F × List Char)) = some (litTok v, R) := by
  obtain ⟨sign, d, more, rfl, hsign, hd, hmore, hread⟩ := hl
  have hnb : isNumBody d = true := by simp [isNumBody, hd]
  -- the run of number-body characters that starts with `more` ends in front of `R`, and no magnitude suffix follows
  obtain ⟨htw, hdw⟩ := span_append hmore (fun c hc => (hR c hc).1)
  have hsuffix : R.takeWhile isAsciiLetter = [] := (span_append (l := []) (by simp) (fun c hc => (hR c hc).2)).1
  rcases hsign with rfl | rfl | rfl
  · rw [List.nil_append] at hread                                          -- no sign: the run behind `d` is `more`
    simp [lexTok, startsNum, hd, htw, hdw, hread, hsuffix, notationMul, litTok]
  · rw [List.singleton_append] at hread                                    -- '-': the run behind it is `d :: more`
    simp [lexTok, startsNum, isSignChar, startsDigit, hd, hnb, htw, hdw, hread, hsuffix, notationMul, litTok]
  · rw [List.singleton_append] at hread                                    -- '+'
    simp [lexTok, startsNum, isSignChar, startsDigit, hd, hnb, htw, hdw, hread, hsuffix, notationMul, litTok]

theorem lexTok_piece {dec thou : String} {p : Piece F} (hp : PieceOK dec thou p) {R : List Char} (he : p.endsBefore R) :
    lexTok dec thou (p.text ++ R) = some (p.tok, R) := by
  cases p with
  | op c => exact lexTok_op dec thou c hp R he
  | lit txt v => exact lexTok_lit dec thou txt v hp R he

theorem pieceOK_text {dec thou : String} {p : Piece F} (hp : PieceOK dec thou p) : ∃ c rest, p.text = c :: rest ∧ c ≠ ' ' := by
  cases p with
  | op c => exact ⟨c, [], rfl, (opChar_class hp).1⟩
  | lit txt v =>
    obtain ⟨sign, d, more, rfl, hsign, hd, _⟩ := hp
    rcases hsign with rfl | rfl | rfl
    · exact ⟨d, more, rfl, fun e => by rw [e, isDigit_not_space] at hd; cases hd⟩
    · exact ⟨'-', d :: more, rfl, by decide⟩
    · exact ⟨'+', d :: more, rfl, by decide⟩

/-- fuel that suffices: one step per piece and per blank, plus the final step -/
def fuelFor : List (Nat × Piece F) → Nat → Nat
  | [], t => t + 1
  | (g, _) :: rest, t => fuelFor rest t + 1 + g

/-- every spacing of well-formed, separated pieces lexes to exactly the pieces' tokens -/
theorem lex_render (dec thou : String) (ps : List (Nat × Piece F)) (t : Nat)
    (hok : ∀ gp ∈ ps, PieceOK dec thou gp.2) (hsep : Separated ps t) :
    (codeLex dec thou (fuelFor ps t) (render ps t) : Option (List (Tok F))) = some (ps.map (·.2.tok)) := by
  induction ps with
  | nil =>
    -- the trailing blanks are skipped, then the scan of `[]` ends
    have := lex_blanks (F := F) dec thou t 1 []
    rw [List.append_nil, Nat.add_comm] at this
    exact this
  | cons gp rest ih =>
    obtain ⟨g, p⟩ := gp
    obtain ⟨hend, hsep'⟩ := hsep
    have ih' := ih (fun x hx => hok x (by simp [hx])) hsep'
    simp only [fuelFor, render, List.append_assoc]
    rw [lex_blanks]
    have hp := lexTok_piece (hok (g, p) (by simp)) hend
    obtain ⟨c, r, hc, hb⟩ := pieceOK_text (hok (g, p) (by simp))
    rw [hc, List.cons_append] at hp ⊢
    rw [codeLex_of_lexTok hp hb, ih']
    rfl

/-- the gaps of a line do not matter: two spacings of the same pieces lex identically -/
theorem lex_spacing_irrelevant (dec thou : String) (ps ps' : List (Nat × Piece F)) (t t' : Nat)
    (hsame : ps.map (·.2.tok) = ps'.map (·.2.tok))
    (hok : ∀ gp ∈ ps, PieceOK dec thou gp.2) (hsep : Separated ps t)
    (hok' : ∀ gp ∈ ps', PieceOK dec thou gp.2) (hsep' : Separated ps' t') :
    (codeLex dec thou (fuelFor ps t) (render ps t) : Option (List (Tok F))) = codeLex dec thou (fuelFor ps' t') (render ps' t') := by
  rw [lex_render dec thou ps t hok hsep, lex_render dec thou ps' t' hok' hsep', hsame]

/-- C02 at string level for this sub-language: a line whose pieces are the tokens of an
    expression tree lexes, parses and evaluates to the tree's textbook value, whatever the
    spacing -/
theorem tree_line_eval (dec thou : String) (s : Sum F) (ps : List (Nat × Piece F)) (t : Nat)
    (htoks : ps.map (·.2.tok) = s.toks)
    (hok : ∀ gp ∈ ps, PieceOK dec thou gp.2) (hsep : Separated ps t)
    (rates : List (String × F)) (conv : UnitRef → F → UnitRef → Option F) (vs : Vars F) :
    ∃ toks ast, codeLex dec thou (fuelFor ps t) (render ps t) = some toks ∧ parseExpr toks = .ok (ast, []) ∧
      execAst rates conv vs ast = .ok (.item (.number s.value .decimal), vs) := by
  obtain ⟨ast, h1, h2⟩ := SCP.C02.parse_eval s rates conv vs
  exact ⟨s.toks, ast, by rw [lex_render dec thou ps t hok hsep, htoks], h1, h2⟩

/-- a line is scanned up to its first '#': `r` is a comment (`'#' :: _`) or nothing, both by `rfl` -/
theorem lexLine_append (dec thou : String) {t r : List Char} (h : '#' ∉ t) (hr : r.takeWhile (· ≠ '#') = []) :
    (lexLine dec thou (t ++ r) : Option (List (Tok F))) = codeLex dec thou (t.length + 1) t := by
  have : (t ++ r).takeWhile (· ≠ '#') = t := by
    rw [List.takeWhile_append_of_pos (p := (· ≠ '#')) fun a ha => decide_eq_true fun e => h (e ▸ ha), hr, List.append_nil]
  unfold lexLine
  simp only [this]

/-- a comment never reaches the tokens: whatever follows the first `#` is irrelevant -/
theorem comment_irrelevant (dec thou : String) (t c c' : List Char) (h : '#' ∉ t) :
    (lexLine dec thou (t ++ '#' :: c) : Option (List (Tok F))) = lexLine dec thou (t ++ '#' :: c') ∧
    (lexLine dec thou (t ++ '#' :: c) : Option (List (Tok F))) = lexLine dec thou t := by
  have h1 : ∀ r, (lexLine dec thou (t ++ '#' :: r) : Option (List (Tok F))) = codeLex dec thou (t.length + 1) t :=
    fun r => lexLine_append dec thou h rfl
  have h2 := lexLine_append (F := F) dec thou (r := []) h rfl
  rw [List.append_nil] at h2
  exact ⟨(h1 c).trans (h1 c').symm, (h1 c).trans h2.symm⟩

/-! the model lexer on `12 *( 3,5+-4)`: the literal, operator and sign pieces of `lex_render`, glued and spaced -/
example : ((codeLex "," "." 40 "12 *( 3,5+-4)".toList : Option (List (Tok Rat))).map fun ts =>
    ts.map fun t => match t with | .item (.number v _) => some v | _ => none) =
    some [some 12, none, none, some (7 / 2), none, some (-4), none] := by decide +kernel

end SCP.Lex
