/-
  SCP.C09 — Dates are read as calendar dates and date arithmetic is calendar arithmetic.

  Calendar = the proleptic Gregorian calendar of SC.Chrono, a bijection between day numbers and valid civil dates
  (SCP.Calendar, no bound on the year); chrono adds a range of years (`InRange`).
  Reading: the `small_date` rule builds its date through chrono's checked constructor, so it returns one exactly for the
  valid triples in range (a month by number or by name, the current year by default) and nothing else, whatever the
  fields hold (`never_invalid`); the regenerated patterns match the spellings and bind day / month / year (`phrase_*`).
  Arithmetic: a duration is only seconds, which `DateItem::calculate` reads back as 365-day years, 30-day months and
  days.  `dateCalc_eq` says what it does with EVERY non-negative duration written that way; the results on days, months
  and years are its instances: the day number moves by `k`, resp. the day of the month is kept and the month index
  `12·year + month` moves by `n`.  Two of them are PARTIAL because the full statement is false of the code as it is:
  `date ± k days` is `k` days away only for `k < 30` (`days_30_witness`: 30 days are re-read as a month; the repository's
  test execute_26, known finding C09-G1), and `date − n months` needs `n < month` because no year is borrowed
  (`sub_months_borrow_witness`; tests execute_21..23, known finding C09-G2).
  `A to B` is the absolute number of days between two dates; tomorrow and yesterday are the neighbours of today, for
  every clock.
-/
import SC.Engine
import SC.Gen.Config
import SCP.Calendar
import SCP.Lemmas.Match
import SCP.Lemmas.Rules
namespace SCP.C09
open SC
open SCP.Calendar SCP.Match

/-- chrono's year range -/
def InRange (t : YMD) : Prop := minYear ≤ t.y ∧ t.y ≤ maxYear

theorem fromYmd_some_iff (y : Int) (m d : Nat) (t : YMD) :
    fromYmd? y m d = some t ↔ t = ⟨y, m, d⟩ ∧ InRange ⟨y, m, d⟩ ∧ Valid ⟨y, m, d⟩ := by
  simp only [fromYmd?, validYMD, InRange, Valid, Bool.and_eq_true, decide_eq_true_eq, Option.ite_none_right_eq_some,
    Option.some.injEq, eq_comm (a := t)]
  rw [and_comm]                        -- the two sides now differ in the order and grouping of the conjuncts only
  simp only [and_assoc]

theorem fromYmd_invalid (y : Int) (m d : Nat) (h : ¬ Valid ⟨y, m, d⟩) : fromYmd? y m d = none := by
  cases hf : fromYmd? y m d with
  | none => rfl
  | some t => exact absurd ((fromYmd_some_iff y m d t).mp hf).2.2 h

def num (x : Rat) : Tok Rat := .item (.number x .decimal)
def ti (t : Tok Rat) : TokInfo Rat := { start := 0, stop := 0, tok := some t }
attribute [rules] num ti

theorem smallDate_numeric (c : Cfg Rat) (lang : String) (now : Now) (vs : Vars Rat) (d m y : Rat) :
    applyRule c lang now vs .smallDate [("day", ti (num d)), ("month", ti (num m)), ("year", ti (num y))] =
      (fromYmd? (toI32 y) (toU32 m).toNat (toU32 d).toNat).map (fun t => .item (.date t c.tz)) := by
  simp [rules]

theorem smallDate_named (c : Cfg Rat) (lang : String) (now : Now) (vs : Vars Rat) (d y : Rat) (m : Nat) :
    applyRule c lang now vs .smallDate [("day", ti (num d)), ("month", ti (.month m)), ("year", ti (num y))] =
      (fromYmd? (toI32 y) m (toU32 d).toNat).map (fun t => .item (.date t c.tz)) := by
  simp [rules]

/-- day and month name without a year: the current year (UTC) is the default -/
theorem smallDate_default_year (c : Cfg Rat) (lang : String) (now : Now) (vs : Vars Rat) (d : Rat) (m : Nat) :
    applyRule c lang now vs .smallDate [("day", ti (num d)), ("month", ti (.month m))] =
      (fromYmd? (dateOfSecs now.secs).y m (toU32 d).toNat).map (fun t => .item (.date t c.tz)) := by
  simp [rules]

/-- whatever the bound fields are: what `small_date` returns is a valid calendar date -/
theorem never_invalid (c : Cfg Rat) (lang : String) (now : Now) (vs : Vars Rat) (fs : Fields Rat) (tok : Tok Rat)
    (h : applyRule c lang now vs .smallDate fs = some tok) : ∃ t, tok = .item (.date t c.tz) ∧ Valid t ∧ InRange t := by
  simp only [applyRule] at h
  split at h
  case isFalse => cases h            -- no day or no month field
  split at h
  case h_1 => cases h                -- the day field does not read as a number
  split at h
  case h_1 => cases h                -- the month field is neither a number nor a month name
  -- what is left came out of `fromYmd?`
  obtain ⟨t, ht, rfl⟩ := Option.map_eq_some_iff.mp h
  obtain ⟨rfl, hr, hv⟩ := (fromYmd_some_iff _ _ _ t).mp ht
  exact ⟨_, rfl, hv, hr⟩

def tiOp (o : Op) : TokInfo Rat := { start := 0, stop := 0, tok := some (.op o) }

/-- `Month day, year` (`.other 44` is the comma) -/
theorem phrase_month_day_comma_year (d y : Rat) (m : Nat) :
    ∃ pat, (Gen.rule_en_small_date Rat).patterns[0]? = some pat ∧
      (findMatch ([] : Vars Rat) pat [ti (.month m), ti (num d), tiOp (.other 44), ti (num y)]).found = true ∧
      (findMatch ([] : Vars Rat) pat [ti (.month m), ti (num d), tiOp (.other 44), ti (num y)]).fields =
        [("day", ti (num d)), ("month", ti (.month m)), ("year", ti (num y))] :=
  ⟨_, rfl, findMatch_spelled ⟨hit_field, hit_field, hit_op, hit_field, trivial⟩ (by simp [rules])⟩

/-- `Month day year` -/
theorem phrase_month_day_year (d y : Rat) (m : Nat) :
    ∃ pat, (Gen.rule_en_small_date Rat).patterns[1]? = some pat ∧
      (findMatch ([] : Vars Rat) pat [ti (.month m), ti (num d), ti (num y)]).found = true ∧
      (findMatch ([] : Vars Rat) pat [ti (.month m), ti (num d), ti (num y)]).fields =
        [("day", ti (num d)), ("month", ti (.month m)), ("year", ti (num y))] :=
  ⟨_, rfl, findMatch_spelled ⟨hit_field, hit_field, hit_field, trivial⟩ (by simp [rules])⟩

/-- `day/month/year` -/
theorem phrase_numeric (d m y : Rat) :
    ∃ pat, (Gen.rule_en_small_date Rat).patterns[2]? = some pat ∧
      (findMatch ([] : Vars Rat) pat [ti (num d), tiOp .div, ti (num m), tiOp .div, ti (num y)]).found = true ∧
      (findMatch ([] : Vars Rat) pat [ti (num d), tiOp .div, ti (num m), tiOp .div, ti (num y)]).fields =
        [("day", ti (num d)), ("month", ti (num m)), ("year", ti (num y))] :=
  ⟨_, rfl, findMatch_spelled ⟨hit_field, hit_op, hit_field, hit_op, hit_field, trivial⟩ (by simp [rules])⟩

/-- `day Month year` -/
theorem phrase_day_month_year (d y : Rat) (m : Nat) :
    ∃ pat, (Gen.rule_en_small_date Rat).patterns[3]? = some pat ∧
      (findMatch ([] : Vars Rat) pat [ti (num d), ti (.month m), ti (num y)]).found = true ∧
      (findMatch ([] : Vars Rat) pat [ti (num d), ti (.month m), ti (num y)]).fields =
        [("day", ti (num d)), ("month", ti (.month m)), ("year", ti (num y))] :=
  ⟨_, rfl, findMatch_spelled ⟨hit_field, hit_field, hit_field, trivial⟩ (by simp [rules])⟩

/-- `day Month` -/
theorem phrase_day_month (d : Rat) (m : Nat) :
    ∃ pat, (Gen.rule_en_small_date Rat).patterns[4]? = some pat ∧
      (findMatch ([] : Vars Rat) pat [ti (num d), ti (.month m)]).found = true ∧
      (findMatch ([] : Vars Rat) pat [ti (num d), ti (.month m)]).fields =
        [("day", ti (num d)), ("month", ti (.month m))] :=
  ⟨_, rfl, findMatch_spelled ⟨hit_field, hit_field, trivial⟩ (by simp [rules])⟩

/-- the Turkish patterns: `day/month/year`, `day Month year`, `day Month` -/
theorem phrase_tr (d m' y : Rat) (m : Nat) :
    (∃ pat, (Gen.rule_tr_small_date Rat).patterns[0]? = some pat ∧
      (findMatch ([] : Vars Rat) pat [ti (num d), tiOp .div, ti (num m'), tiOp .div, ti (num y)]).found = true) ∧
    (∃ pat, (Gen.rule_tr_small_date Rat).patterns[1]? = some pat ∧
      (findMatch ([] : Vars Rat) pat [ti (num d), ti (.month m), ti (num y)]).found = true) ∧
    (∃ pat, (Gen.rule_tr_small_date Rat).patterns[2]? = some pat ∧
      (findMatch ([] : Vars Rat) pat [ti (num d), ti (.month m)]).found = true) :=
  ⟨⟨_, rfl, findMatch_found ⟨hit_field, hit_op, hit_field, hit_op, hit_field, trivial⟩⟩,
    ⟨_, rfl, findMatch_found ⟨hit_field, hit_field, hit_field, trivial⟩⟩,
    ⟨_, rfl, findMatch_found ⟨hit_field, hit_field, trivial⟩⟩⟩

theorem dayNumber_in_range (t : YMD) (hv : Valid t) (hr : InRange t) : minDay ≤ dayNumber t ∧ dayNumber t ≤ maxDay := by
  have hd31 : daysInMonth t.y t.m ≤ 31 := by unfold daysInMonth; lia
  have ⟨hm1, hm12, hd1, hd⟩ := hv
  refine ⟨dayNumber_le_of_not_lex ⟨minYear, 1, 1⟩ t (by unfold Valid; decide) hv ?_,
    dayNumber_le_of_not_lex t ⟨maxYear, 12, 31⟩ hv (by unfold Valid; decide) ?_⟩
  · unfold Lex InRange at *; lia
  · unfold Lex InRange at *; lia

theorem addDays_some_iff (t t' : YMD) (k : Int) : addDays? t k = some t' ↔
    (minDay ≤ dayNumber t + k ∧ dayNumber t + k ≤ maxDay) ∧ civilFromDays (dayNumber t + k) = t' := by
  simp [addDays?]

/-- `date ± k days` (chrono's `checked_add_signed`) -/
theorem addDays_dayNumber (t t' : YMD) (k : Int) (h : addDays? t k = some t') :
    dayNumber t' = dayNumber t + k ∧ Valid t' := by
  obtain ⟨-, rfl⟩ := (addDays_some_iff t t' k).1 h
  exact ⟨dayNumber_civilFromDays _, civilFromDays_valid _⟩

theorem addDays_some (t : YMD) (k : Int) (h1 : minDay ≤ dayNumber t + k) (h2 : dayNumber t + k ≤ maxDay) :
    addDays? t k = some (civilFromDays (dayNumber t + k)) :=
  (addDays_some_iff t _ k).2 ⟨⟨h1, h2⟩, rfl⟩

theorem addDays_zero (t : YMD) (hv : Valid t) (hr : InRange t) : addDays? t 0 = some t := by
  rw [addDays_some_iff, Int.add_zero]
  exact ⟨dayNumber_in_range t hv hr, civilFromDays_dayNumber t hv⟩

theorem mul_add_ediv_small (L n r : Int) (hr0 : 0 ≤ r) (hr : r < L) : (L * n + r) / L = n := by
  rw [Int.mul_add_ediv_left _ _ (Int.ne_of_gt (Int.lt_of_le_of_lt hr0 hr)), Int.ediv_eq_zero_of_lt hr0 hr, Int.add_zero]

/-- `n` units of `L` seconds (a year, a month) and a rest `r`: what `dateYears` and `dateMonths` compute of such a
    duration — the number of units, the rest, and that chrono can represent the rest (the only use of `hL`) -/
theorem units_rest (L n r : Int) (hL : L ≤ YEAR) (hn : 0 ≤ n) (hr0 : 0 ≤ r) (hr : r < L) :
    ((L * n + r).natAbs : Int) / L = n ∧ L * n + r - L * n = r ∧ durOk r = true := by
  have hL0 : 0 ≤ L := Int.le_trans hr0 (Int.le_of_lt hr)
  refine ⟨?_, by lia, ?_⟩
  · rw [Int.natAbs_of_nonneg (Int.add_nonneg (Int.mul_nonneg hL0 hn) hr0), mul_add_ediv_small _ _ _ hr0 hr]
  · unfold YEAR at hL
    unfold durOk durMax
    simp only [Bool.and_eq_true, decide_eq_true_eq]
    lia

theorem dateYears_eq (t : YMD) (secs n r : Int) (add : Bool) (h : secs = YEAR * n + r)
    (hn : 0 ≤ n) (hr0 : 0 ≤ r) (hr : r < YEAR) :
    dateYears t secs add =
      (if n = 0 then some t else fromYmd? (if add then t.y + n else t.y - n) t.m t.d).map (·, r) := by
  obtain ⟨hq, hrest, hok⟩ := units_rest YEAR n r (Int.le_refl _) hn hr0 hr
  subst h
  simp only [dateYears, hq, hrest, hok, if_true]
  by_cases h0 : n = 0
  · rw [if_pos h0, if_pos h0, h0, Int.mul_zero, Int.zero_add]; rfl
  · rw [if_neg h0, if_neg h0]
    split                              -- the `match` on the date the checked constructor builds
    next h => rw [h]; rfl              -- no such date
    next h => rw [h]; rfl              -- the date, with the rest

theorem dateMonths_eq (t : YMD) (secs n r : Int) (add : Bool) (h : secs = MONTH * n + r)
    (hn : 0 ≤ n) (hr0 : 0 ≤ r) (hr : r < MONTH) :
    dateMonths t secs add =
      (if n = 0 then some t
       else if add then
          fromYmd? (t.y + ((t.m : Int) - 1 + n) / 12) ((((t.m : Int) - 1 + n) % 12).toNat + 1) t.d
       else fromYmd? (t.y - n / 12)
          (if (t.m : Int) - n % 12 ≤ 0 then (t.m : Int) - n % 12 + 12 else (t.m : Int) - n % 12).toNat t.d).map
        (·, r) := by
  obtain ⟨hq, hrest, hok⟩ := units_rest MONTH n r (by decide) hn hr0 hr
  subst h
  simp only [dateMonths, hq, hrest, hok, if_true]
  by_cases h0 : n = 0
  · rw [if_pos h0, if_pos h0, h0, Int.mul_zero, Int.zero_add]; rfl
  · rw [if_neg h0, if_neg h0]
    split                              -- the `match` on the date the checked constructor builds
    next h => rw [h]; rfl              -- no such date
    next h => rw [h]; rfl              -- the date, with the rest

theorem dateCalc_bind (t : YMD) (secs : Int) (add : Bool) :
    dateCalc t secs add = (dateYears t secs add).bind fun p => (dateMonths p.1 p.2 add).bind fun q =>
      addDays? q.1 (if add then Int.tdiv q.2 86400 else -(Int.tdiv q.2 86400)) := by
  unfold dateCalc
  cases dateYears t secs add with
  | none => rfl
  | some p => simp only [Option.bind_some]; cases dateMonths p.1 p.2 add <;> rfl

/-- `dateCalc` on `a` years, `b` months, `k` days and `s` seconds (each part smaller than the unit above):
    the year moves, then the month, each time through the checked constructor, then `k` whole days -/
theorem dateCalc_eq (t : YMD) (secs a b k s : Int) (add : Bool)
    (h : secs = (365 * a + 30 * b + k) * 86400 + s)
    (hb : 0 ≤ a ∧ 0 ≤ b ∧ 0 ≤ k ∧ k < 30 ∧ 30 * b + k < 365 ∧ 0 ≤ s ∧ s < 86400) :
    dateCalc t secs add =
      ((if a = 0 then some t else fromYmd? (if add then t.y + a else t.y - a) t.m t.d).bind fun t1 =>
        (if b = 0 then some t1
         else if add then
          fromYmd? (t1.y + ((t1.m : Int) - 1 + b) / 12) ((((t1.m : Int) - 1 + b) % 12).toNat + 1) t1.d
         else fromYmd? (t1.y - b / 12)
          (if (t1.m : Int) - b % 12 ≤ 0 then (t1.m : Int) - b % 12 + 12 else (t1.m : Int) - b % 12).toNat t1.d).bind
        fun t2 => addDays? t2 (if add then k else -k)) := by
  obtain ⟨ha, hb, hk, hm, hy, hs0, hs⟩ := hb
  have hD : Int.tdiv (86400 * k + s) 86400 = k := by
    rw [Int.tdiv_eq_ediv_of_nonneg (Int.add_nonneg (Int.mul_nonneg (by decide) hk) hs0), mul_add_ediv_small _ _ _ hs0 hs]
  have hY := dateYears_eq t secs a (MONTH * b + (86400 * k + s)) add (by unfold YEAR MONTH; lia) ha
    (by unfold MONTH; lia) (by unfold YEAR MONTH; lia)
  have hM := fun t1 => dateMonths_eq t1 _ b (86400 * k + s) add rfl hb (by lia) (by unfold MONTH; lia)
  simp only [dateCalc_bind, hY, hM, Option.bind_map, Function.comp_def, hD]

theorem fromYmd_bind_addDays_zero (y : Int) (m d : Nat) :
    (fromYmd? y m d).bind (addDays? · 0) = fromYmd? y m d := by
  cases hf : fromYmd? y m d with
  | none => rfl
  | some t' =>
    obtain ⟨rfl, hr, hv⟩ := (fromYmd_some_iff _ _ _ t').mp hf
    exact addDays_zero _ hv hr

/-- for fewer than 30 days (`k` days or `k/7` weeks): `date + k days` is the date `k` days
    later.  The bound is forced: see `days_30_witness`. -/
theorem add_days_partial (t : YMD) (k : Int) (h0 : 0 ≤ k) (h30 : k < 30) :
    dateCalc t (k * 86400) true = addDays? t k := by
  rw [dateCalc_eq t _ 0 0 k 0 true (by lia) (by lia)]
  rfl

theorem sub_days_partial (t : YMD) (k : Int) (h0 : 0 ≤ k) (h30 : k < 30) :
    dateCalc t (k * 86400) false = addDays? t (-k) := by
  rw [dateCalc_eq t _ 0 0 k 0 false (by lia) (by lia)]
  rfl

/-- the full statement is false of the code: 1 Jan 2021 + 30 days is 1 Feb, not 31 Jan
    (30 days are re-read as one month; known finding C09-G1, pinned by test execute_26) -/
theorem days_30_witness : dateCalc ⟨2021, 1, 1⟩ (30 * 86400) true = some ⟨2021, 2, 1⟩ ∧
    addDays? ⟨2021, 1, 1⟩ 30 = some ⟨2021, 1, 31⟩ := by decide

/-- `date + n months` (1 ≤ n ≤ 11; a month is 30 days of duration): the day is kept, the month
    moves by n with carry into the year; a target that does not exist is rejected -/
theorem add_months (t : YMD) (n : Int) (h1 : 1 ≤ n) (h11 : n ≤ 11) :
    dateCalc t (n * MONTH) true =
      fromYmd? (t.y + ((t.m : Int) - 1 + n) / 12) ((((t.m : Int) - 1 + n) % 12).toNat + 1) t.d := by
  rw [dateCalc_eq t _ 0 n 0 0 true (by unfold MONTH; lia) (by lia)]
  simp only [if_true, Option.bind_some, if_neg (show ¬ n = 0 by lia)]
  exact fromYmd_bind_addDays_zero _ _ _

set_option linter.unusedVariables false in
/-- in calendar terms: the month index `12·year + (month − 1)` moves by exactly n, the day stays (`hm` is not needed) -/
theorem month_index_add (t t' : YMD) (n : Int) (h1 : 1 ≤ n) (h11 : n ≤ 11) (hm : 1 ≤ t.m)
    (h : dateCalc t (n * MONTH) true = some t') :
    12 * t'.y + ((t'.m : Int) - 1) = 12 * t.y + ((t.m : Int) - 1) + n ∧ t'.d = t.d ∧ Valid t' := by
  rw [add_months t n h1 h11] at h
  obtain ⟨rfl, -, hv⟩ := (fromYmd_some_iff _ _ _ t').mp h
  refine ⟨?_, rfl, hv⟩
  lia

/-- for `n < month`: `date − n months` keeps the day and moves the month back by n.
    Without the hypothesis the year is not borrowed: `sub_months_borrow_witness`. -/
theorem sub_months_partial (t : YMD) (n : Int) (h1 : 1 ≤ n) (h11 : n ≤ 11) (hlt : n < (t.m : Int)) :
    dateCalc t (n * MONTH) false = fromYmd? t.y ((t.m : Int) - n).toNat t.d := by
  rw [dateCalc_eq t _ 0 n 0 0 false (by unfold MONTH; lia) (by lia)]
  simp only [if_true, Option.bind_some, if_neg (show ¬ n = 0 by lia), Bool.false_eq_true, if_false,
    show n / 12 = 0 by lia, show n % 12 = n by lia, if_neg (show ¬ ((t.m : Int) - n ≤ 0) by lia), Int.sub_zero]
  exact fromYmd_bind_addDays_zero _ _ _

/-- the code as it is: 28 Jan 2019 − 2 months is 28 Nov 2019 (not 2018): no year borrow
    (known finding C09-G2, pinned by tests execute_21..23) -/
theorem sub_months_borrow_witness : dateCalc ⟨2019, 1, 28⟩ (2 * MONTH) false = some ⟨2019, 11, 28⟩ := by decide

/-- `date ± n years` (a year is 365 days of duration): same day and month, n years away -/
theorem add_years (t : YMD) (n : Int) (h1 : 1 ≤ n) :
    dateCalc t (n * YEAR) true = fromYmd? (t.y + n) t.m t.d := by
  rw [dateCalc_eq t _ n 0 0 0 true (by unfold YEAR; lia) (by lia)]
  simp only [if_true, if_neg (show ¬ n = 0 by lia), Option.bind_some]
  exact fromYmd_bind_addDays_zero _ _ _

theorem sub_years (t : YMD) (n : Int) (h1 : 1 ≤ n) :
    dateCalc t (n * YEAR) false = fromYmd? (t.y - n) t.m t.d := by
  rw [dateCalc_eq t _ n 0 0 0 false (by unfold YEAR; lia) (by lia)]
  simp only [if_true, if_neg (show ¬ n = 0 by lia), Option.bind_some, Bool.false_eq_true, if_false]
  exact fromYmd_bind_addDays_zero _ _ _

set_option linter.unusedVariables false in
/-- every month count `N = 12a + b`: the duration `N months` is `365a + 30b` days
    (`durationOfUnit 3`), which the code reads back as a years and b months — provided the
    intermediate date (a years later, same month and day) exists (`hr` is not needed) -/
theorem add_months_general (t t1 : YMD) (a b : Int) (ha : 1 ≤ a) (hb0 : 0 ≤ b) (hb : b ≤ 11)
    (hr : durOk ((365 * a + 30 * b) * 86400) = true) (hmid : fromYmd? (t.y + a) t.m t.d = some t1) :
    dateCalc t ((365 * a + 30 * b) * 86400) true =
      if b = 0 then some t1
      else fromYmd? (t1.y + ((t1.m : Int) - 1 + b) / 12) ((((t1.m : Int) - 1 + b) % 12).toNat + 1) t1.d := by
  rw [dateCalc_eq t _ a b 0 0 true (by lia) (by lia)]
  simp only [if_true, if_neg (show ¬ a = 0 by lia), hmid, Option.bind_some]
  split
  · rw [← hmid]
    exact fromYmd_bind_addDays_zero _ _ _
  · exact fromYmd_bind_addDays_zero _ _ _

def dat (t : YMD) (z : Zone) : Tok Rat := .item (.date t z)
attribute [rules] dat

/-- `A to B` is the absolute number of days between the two dates -/
theorem to_abs_days (c : Cfg Rat) (lang : String) (now : Now) (vs : Vars Rat) (a b : YMD) (za zb : Zone) :
    applyRule c lang now vs .toDuration [("source", ti (dat a za)), ("target", ti (dat b zb))] =
      some (.item (.duration (((dayNumber a - dayNumber b).natAbs : Int) * 86400))) := by
  simp [rules]
  congr 1
  split <;> omega

theorem to_symmetric (c : Cfg Rat) (lang : String) (now : Now) (vs : Vars Rat) (a b : YMD) (za zb : Zone) :
    applyRule c lang now vs .toDuration [("source", ti (dat a za)), ("target", ti (dat b zb))] =
      applyRule c lang now vs .toDuration [("source", ti (dat b zb)), ("target", ti (dat a za))] := by
  rw [to_abs_days, to_abs_days]
  congr 4
  omega

/-- for every clock: tomorrow and yesterday (when representable) are valid dates whose day
    numbers are today's ± 1 (constant kinds 8 `today`, 9 `tomorrow`, 10 `yesterday`) -/
theorem today_consecutive (now : Now) (td tm yd : YMD)
    (h0 : constDate now 8 = some td) (h1 : constDate now 9 = some tm) (h2 : constDate now 10 = some yd) :
    Valid td ∧ dayNumber tm = dayNumber td + 1 ∧ dayNumber yd = dayNumber td - 1 ∧ Valid tm ∧ Valid yd := by
  simp only [constDate, if_true, Option.some.injEq] at h0
  have e1 : constDate now 9 = addDays? (dateOfSecs now.secs) 1 := by simp [constDate]
  have e2 : constDate now 10 = addDays? (dateOfSecs now.secs) (-1) := by simp [constDate]
  rw [e1] at h1; rw [e2] at h2
  subst h0
  obtain ⟨a1, a2⟩ := addDays_dayNumber _ _ _ h1
  obtain ⟨b1, b2⟩ := addDays_dayNumber _ _ _ h2
  exact ⟨civilFromDays_valid _, a1, by omega, a2, b2⟩

theorem today_dayNumber (now : Now) : dayNumber (dateOfSecs now.secs) = now.secs / 86400 :=
  dayNumber_civilFromDays _

example : dateCalc ⟨2020, 11, 30⟩ (3 * MONTH) true = some ⟨2021, 2, 30⟩ ∨ dateCalc ⟨2020, 11, 30⟩ (3 * MONTH) true = none := by
  right; decide
example : dateCalc ⟨2020, 11, 15⟩ (3 * MONTH) true = some ⟨2021, 2, 15⟩ := by decide
example : dateCalc ⟨2024, 2, 28⟩ (2 * 86400) true = some ⟨2024, 3, 1⟩ := by decide
example : constDate ⟨86400 * 19782 + 5⟩ 9 = some ⟨2024, 3, 1⟩ := by decide

end SCP.C09
